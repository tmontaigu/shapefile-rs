/-
C13 — truncated or failing sources give errors and only genuine shapes.
The errors follow from two facts proved for every decoder of the model: it reads its source
sequentially (`Stable`) and it inverts the writer's encoder exactly (`Exact`); so a strict prefix
of an encoding is an I/O error, never a value.  That a record wholly inside the retained bytes is
still returned needs a third: a success depends on no byte behind those it consumed (`Seq.ok`).
-/
import Shp.Lemmas.ShortRead
import Shp.Lemmas.ReadAll
import Shp.Lemmas.Stream
namespace Shp.C13
open Shp Dec

theorem truncated_header (h : Header) (hfl : InI32 h.fileLength) (hv : InI32 h.version) (t : Nat) (ht : t < 100) :
    readHeader (h.enc.take t) = .err .io :=
  readHeader_stable.take_io (readHeader_enc h hfl hv) (by rw [Header.enc_length]; exact ht)

/-- a record cut anywhere (even right at its start) is an I/O error, never a shape -/
theorem truncated_record (o : Orient) (tg : Target) (num : Int) (s : Shape) (c : Nat)
    (hn : InI32 num) (hs : s.Sized) (hnull : s ≠ .null) (htg : tg.Accepts s.writeType)
    (hc : c < (encRecord num s.writeType s).length) :
    readOneShape o tg ((encRecord num s.writeType s).take c) = .err .io :=
  (readOneShape_stable o tg).take_io (fun r => readOneShape_encRecord o tg num s r hn hs hnull htg) hc

theorem truncated_index (ss : List Shape) (hb : 50 + totalWords ss < 2147483648) (t : Nat) (ht : t < (shxFile ss).length) :
    readIndexFile ((shxFile ss).take t) = .err .io :=
  readIndexFile_stable.take_io (readIndexFile_stable.ok_append (readIndexFile_shxFile ss hb)) ht

theorem open_truncated_index (shp : Bytes) (ss : List Shape) (hb : 50 + totalWords ss < 2147483648) (t : Nat)
    (ht : t < (shxFile ss).length) : RState.open shp (some ((shxFile ss).take t)) = .error (.err .io) :=
  RState.open_index_err (truncated_index ss hb t ht)

/-- how many of the records `ss` lie wholly inside the first `avail` bytes of their stream
(`seqOuts`' count when the header declares exactly their length) -/
def wholeCount : List Shape → Nat → Nat
  | [], _ => 0
  | s :: ss, avail =>
    let l := 8 + 2 * recordSizeWords s
    if l ≤ avail then 1 + wholeCount ss (avail - l) else 0

/-- with the declared length ending right behind the last record, a cut stream gives the records
wholly there, then the I/O error for the cut one -/
theorem seqOuts_exact (o : Orient) (p : Nat) (ss : List Shape) (avail : Nat) :
    seqOuts o (p + 2 * totalWords ss) p ss avail =
      ((ss.take (wholeCount ss avail)).map fun s => ROut.shape (s.readBack o)) ++
      (if avail < 2 * totalWords ss then [ROut.err .io] else []) := by
  induction ss generalizing p avail with
  | nil => simp [seqOuts, wholeCount, totalWords]
  | cons s ss ih =>
    have htw : 2 * totalWords (s :: ss) = 8 + 2 * recordSizeWords s + 2 * totalWords ss := by
      rw [totalWords]; omega
    rw [htw, seqOuts, wholeCount, if_neg (by omega)]
    split
    next hfit =>
      rw [← Nat.add_assoc, ih, Nat.add_comm 1, List.take_succ_cons, List.map_cons, List.cons_append]
      simp only [Nat.sub_lt_iff_lt_add' hfit]
    next hcut => rw [if_pos (by omega)]; rfl

theorem truncated_atStream (o : Orient) (tg : Target) {t : ShapeType} {ss : List Shape} {k avail : Nat} {st : RState}
    (fuel : Nat) (h : AtStream t k ss avail st) (hok : ∀ s ∈ ss, RecOK tg t s) (hk : k + ss.length < 2147483648)
    (hfl0 : 0 ≤ st.header.fileLength)
    (hflen : (2 * st.header.fileLength).toNat = st.srcPos + 2 * totalWords ss) (hfuel : ss.length + 1 ≤ fuel) :
    (st.iterAll o tg fuel).2 =
      ((ss.take (wholeCount ss avail)).map fun s => ROut.shape (s.readBack o)) ++
      (if avail < 2 * totalWords ss then [ROut.err .io] else []) := by
  rw [iterAll_stream o tg t ss k avail fuel st hok hk h, RState.declaredEnd_nonneg hfl0, hflen,
    seqOuts_exact o st.srcPos ss avail, List.take_of_length_le]
  rw [List.length_append, List.length_map, List.length_take]
  split <;> simp only [List.length_cons, List.length_nil] <;> omega

/-- MAIN (sequential reading of a truncated stream): exactly the records wholly contained in the
retained bytes are returned, each as the uncut file gives it (`readBack`), then the cut record is
reported as an I/O error and the iteration ends. -/
theorem truncated_stream (o : Orient) (tg : Target) (t : ShapeType) (ss : List Shape) (k avail fuel : Nat)
    (st : RState)
    (hsz : ∀ s ∈ ss, s.Sized) (hnn : ∀ s ∈ ss, s ≠ .null) (hty : ∀ s ∈ ss, s.writeType = t)
    (hacc : ∀ s ∈ ss, tg.Accepts s.writeType) (hk : k + ss.length < 2147483648)
    (havail : avail ≤ (recordsFrom t k ss).length)
    (hidx : st.index = none) (hpos : st.currentPos = some st.srcPos) (hfl0 : 0 ≤ st.header.fileLength)
    (hflen : (2 * st.header.fileLength).toNat = st.srcPos + (recordsFrom t k ss).length)
    (hdata : st.data.drop st.srcPos = (recordsFrom t k ss).take avail) (hlen : st.srcPos ≤ st.data.length)
    (hfuel : ss.length + 1 ≤ fuel) :
    (st.iterAll o tg fuel).2 =
      ((ss.take (wholeCount ss avail)).map fun s => ROut.shape (s.readBack o)) ++
      (if avail < (recordsFrom t k ss).length then [ROut.err .io] else []) := by
  rw [recordsFrom_length] at hflen ⊢
  exact truncated_atStream o tg fuel ⟨hidx, hpos, hdata⟩ (RecOK.of hsz hty hacc) hk hfl0 hflen hfuel

/-- MAIN (file level): a written `.shp` cut at ANY length `t >= 100`: the reader opens, yields
exactly the records wholly inside the retained bytes, then one I/O error for the cut record (none
if nothing was cut) and ends.  (`truncated_sequential_any_file`: any back-to-back layout, `∃ k`.) -/
theorem truncated_file (o : Orient) (tg : Target) (ss : List Shape) (hok : FileOK tg ss) (t : Nat)
    (ht : 100 ≤ t) (ht2 : t ≤ (shpFile ss).length) :
    ∃ st, RState.open ((shpFile ss).take t) none = .ok st ∧
      (st.iterAll o tg (ss.length + 1)).2 =
        ((ss.take (wholeCount ss (t - 100))).map fun s => ROut.shape (s.readBack o)) ++
        (if t < (shpFile ss).length then [ROut.err .io] else []) := by
  have hfl : (finalHeader ss).fileLength = 50 + (totalWords ss : Int) := rfl
  have hfl0 : 0 ≤ (finalHeader ss).fileLength := by omega
  have hflen : (2 * (finalHeader ss).fileLength).toNat = 100 + 2 * totalWords ss := by omega
  have htake : (shpFile ss).take t = (finalHeader ss).enc ++ (recordsFrom (fileTypeOf ss) 1 ss).take (t - 100) := by
    rw [shpFile, List.take_append, List.take_of_length_le (by rw [Header.enc_length]; omega), Header.enc_length]
  refine ⟨_, RState.open_none (htake ▸ readHeader_finalHeader ss hok.total _), ?_⟩
  rw [truncated_atStream o tg (ss.length + 1) ⟨rfl, rfl, by rw [htake]; exact List.drop_left' (Header.enc_length _)⟩
    hok.recOK hok.count hfl0 hflen (Nat.le_refl _)]
  simp only [shpFile, List.length_append, Header.enc_length, recordsFrom_length, Nat.sub_lt_iff_lt_add' ht]

theorem truncated_file_header (ss : List Shape) (htot : 50 + totalWords ss < 2147483648) (t : Nat) (ht : t < 100) :
    RState.open ((shpFile ss).take t) none = .error (.err .io) := by
  have hh := finalHeader_inI32 ss htot
  apply RState.open_none_header_err
  unfold shpFile
  rw [List.take_append_of_le_length (by rw [Header.enc_length]; omega)]
  exact truncated_header (finalHeader ss) hh.1 hh.2 t ht

/-- non-vacuity: cutting a two-record stream in the middle of the second record keeps one record -/
example : wholeCount [Shape.point .xy Pt.default, Shape.point .xy Pt.default] 40 = 1 := by decide

theorem cut_run_is_io {α : Type} (d : Dec α) (hd : Dec.Stable d) (bs ext : Bytes) (a : α) (rest : Bytes)
    (hfull : d (bs ++ ext) = .ok a rest) (hcons : rest.length < ext.length) : d bs = .err .io :=
  hd.append_io hfull hcons

/-- a record ANY index entry points at (whatever wrote it, wherever it sits), read from a source cut
strictly inside it (`h2`: before its end), is the I/O error -/
theorem cut_record_is_io (o : Orient) (tg : Target) (data : Bytes) (e : IndexEntry) (s : Shape)
    (hr : RecordAt o tg data e s) (t : Nat) (h1 : (2 * e.offset).toNat ≤ t)
    (h2 : ∀ w : Int, ∀ rest : Bytes, readOneShape o tg (data.drop (2 * e.offset).toNat) = .ok (w, s) rest →
      t < data.length - rest.length) :
    readOneShape o tg ((data.take t).drop (2 * e.offset).toNat) = .err .io := by
  obtain ⟨_, w, rest, hread, _, hlen⟩ := hr
  have ht := h2 w rest hread
  have h := (readOneShape_seq o tg).cut (t := t) hread hlen (by omega) (by omega)
  rwa [if_neg (by omega)] at h

theorem truncated_entry (o : Orient) (tg : Target) (data : Bytes) (e : IndexEntry) (s : Shape)
    (hr : RecordAt o tg data e s) (t : Nat) (ht : t ≤ data.length) :
    (entryOut o tg (data.take t) e = .shape s ∧ RecordAt o tg (data.take t) e s) ∨
    (entryOut o tg (data.take t) e = .err .io ∧
      readOneShape o tg ((data.take t).drop (2 * e.offset).toNat) = .err .io) := by
  obtain ⟨hoff, w, rest, hread, hw, hlen⟩ := hr
  have h := (readOneShape_seq o tg).cut hread hlen (by omega) ht
  split at h
  · obtain ⟨r', hb, hr'⟩ := h
    exact .inl ⟨entryOut_ok hb, hoff, w, r', hb, hw, hr'.trans (List.length_take_of_le ht).symm⟩
  · exact .inr ⟨entryOut_err h, h⟩

/-- a record that lies wholly inside the retained bytes IS returned: the decoders look at no byte
they do not consume (`Seq.ok`) -/
theorem whole_record_survives (o : Orient) (tg : Target) (data : Bytes) (e : IndexEntry) (s : Shape)
    (w : Int) (rest : Bytes) (hoff : 0 ≤ e.offset)
    (hread : readOneShape o tg (data.drop (2 * e.offset).toNat) = .ok (w, s) rest) (hw : 0 ≤ w)
    (hlen : (2 * e.offset).toNat + 8 + (2 * w).toNat + rest.length = data.length)
    (t : Nat) (ht : t ≤ data.length) (hend : (2 * e.offset).toNat + 8 + (2 * w).toNat ≤ t) :
    entryOut o tg (data.take t) e = .shape s := by
  have h := (readOneShape_seq o tg).cut hread hlen (by omega) ht
  rw [if_pos hend] at h
  obtain ⟨r', hb, _⟩ := h
  exact entryOut_ok hb

/-- MAIN (any layout): a .shp whose index entries all point at decodable records — stored in any
physical order, with any fillers — cut at ANY length `t` and read with its index: the reader opens
(given the header survives) and the iteration yields, for every index entry in index order, that
entry's own outcome: the record's shape, or the I/O error; never anything else, and the outcome of
one entry does not depend on the others -/
theorem truncated_any_layout (o : Orient) (tg : Target) (data shx : Bytes) (idx : List IndexEntry)
    (shapes : List Shape) (h : Header) (rest xr : Bytes) (t : Nat) (ht : t ≤ data.length)
    (hx : readIndexFile shx = .ok idx xr) (hh : readHeader (data.take t) = .ok h rest)
    (ha : Addressable o tg data idx shapes) :
    ∃ st, RState.open (data.take t) (some shx) = .ok st ∧
      (st.iterAll o tg st.fuel).2 = idx.map (entryOut o tg (data.take t)) ∧
      ∀ (i : Nat) (h1 : i < idx.length) (h2 : i < shapes.length),
        entryOut o tg (data.take t) idx[i] = .shape shapes[i] ∨ entryOut o tg (data.take t) idx[i] = .err .io := by
  obtain ⟨hlen, haddr⟩ := ha
  have hent := fun i h1 h2 => truncated_entry o tg data idx[i] shapes[i] (haddr i h1 h2) t ht
  refine ⟨_, RState.open_some hx hh, ?_, fun i h1 h2 => (hent i h1 h2).imp (·.1) (·.1)⟩
  have hinv := TInv.of_entries (o := o) (tg := tg) (st := ⟨data.take t, 100, h, some idx, some 100, 0⟩) rfl
    (fun p hp => Option.some.inj hp) fun i h1 =>
      (hent i h1 (by omega)).imp (fun h => ⟨_, h.2⟩) fun h => ⟨(haddr i h1 (by omega)).1, _, h.2⟩
  exact hinv.drain rfl

theorem header_survives_cut (data : Bytes) (h : Header) (rest : Bytes) (hh : readHeader data = .ok h rest)
    (t : Nat) (h100 : 100 ≤ t) (ht : t ≤ data.length) :
    ∃ rest', readHeader (data.take t) = .ok h rest' := by
  have hc := readHeader_seq.cut (p := 0) hh (Nat.add_comm _ _ ▸ readHeader_consumes data h rest hh) (by omega) ht
  rw [if_pos h100] at hc
  exact hc.imp fun _ => And.left

/-- MAIN (any layout), without the hypothesis on the cut file's header: for every `t` from 100 to
the file's length -/
theorem truncated_any_layout' (o : Orient) (tg : Target) (data shx : Bytes) (idx : List IndexEntry)
    (shapes : List Shape) (h : Header) (rest xr : Bytes) (t : Nat) (h100 : 100 ≤ t) (ht : t ≤ data.length)
    (hx : readIndexFile shx = .ok idx xr) (hh : readHeader data = .ok h rest)
    (ha : Addressable o tg data idx shapes) :
    ∃ st, RState.open (data.take t) (some shx) = .ok st ∧
      (st.iterAll o tg st.fuel).2 = idx.map (entryOut o tg (data.take t)) ∧
      ∀ (i : Nat) (h1 : i < idx.length) (h2 : i < shapes.length),
        entryOut o tg (data.take t) idx[i] = .shape shapes[i] ∨ entryOut o tg (data.take t) idx[i] = .err .io := by
  obtain ⟨rest', hh'⟩ := header_survives_cut data h rest hh t h100 ht
  exact truncated_any_layout o tg data shx idx shapes h rest' xr t ht hx hh' ha

/-- MAIN (any spec-conformant file, no index): a .shp whose records lie back to back behind the
header — whatever wrote it: optional M blocks absent, null records, any stored boxes and record
numbers — cut at ANY length from 100 bytes on and read sequentially: the reader opens and yields the
first `k` records, then (if records are missing) the I/O error for the cut record, and ends -/
theorem truncated_sequential_any_file (o : Orient) (tg : Target) (data : Bytes) (h : Header) (rest : Bytes)
    (shapes : List Shape) (hh : readHeader data = .ok h rest) (hfl : 0 ≤ h.fileLength)
    (hrec : SeqRecords o tg data (2 * h.fileLength).toNat 100 shapes)
    (t : Nat) (h100 : 100 ≤ t) (ht : t ≤ data.length) :
    ∃ st k, RState.open (data.take t) none = .ok st ∧ k ≤ shapes.length ∧
      (st.iterAll o tg st.fuel).2 =
        (shapes.take k).map ROut.shape ++ (if k < shapes.length then [ROut.err .io] else []) := by
  obtain ⟨rest', hh'⟩ := header_survives_cut data h rest hh t h100 ht
  have hst : TSeq o tg data t ⟨data.take t, 100, h, none, some 100, 0⟩ 100 := ⟨rfl, rfl, rfl, rfl, hfl⟩
  obtain ⟨k, hk, _, hall⟩ := TSeq.iterAll ht hrec hst (hst.fuel_ge ht)
  exact ⟨_, k, RState.open_none hh', hk, hall⟩

end Shp.C13
