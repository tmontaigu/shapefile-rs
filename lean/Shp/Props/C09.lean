/-
C09 — any interleaving of writes and finalize calls yields the same files as drop.
Statements are over EVERY call history (no bound on its length), by the invariant `WInv`.
-/
import Shp.Lemmas.History
namespace Shp.C09
open Shp

/-- MAIN: whatever the interleaving of writes and finalizes (finalize first, repeated finalize,
none at all), the bytes left after drop are the complete files of the accepted shapes -/
theorem history_files (hasShx : Bool) (cs : List WCall) (hc : NonNullCalls cs) :
    ((World.init hasShx).run cs).drop.shp.data = shpFile (acceptedOf cs) ∧
    ((World.init hasShx).run cs).drop.shx.data = (if hasShx then shxFile (acceptedOf cs) else []) := by
  have e := (WInv.reachable hasShx cs hc).files
  rw [World.run_hasShx] at e
  exact ⟨congrArg Prod.fst e, congrArg Prod.snd e⟩

/-- the bytes a history leaves after drop are exactly those of writing its accepted shapes and
simply dropping (`hss`, `hacc` are unused) -/
theorem history_eq_plain_writes (hasShx : Bool) (cs : List WCall) (hc : NonNullCalls cs)
    (hss : ∀ s ∈ acceptedOf cs, s ≠ .null) (hacc : acceptedOf ((acceptedOf cs).map .writeShape) = acceptedOf cs) :
    let w := ((World.init hasShx).run cs).drop
    (w.shp.data, w.shx.data) = writeFiles hasShx (acceptedOf cs) :=
  history_eq_writeFiles hasShx cs hc

/-- each successful finalize leaves complete files of the shapes accepted so far -/
theorem finalize_complete (hasShx : Bool) (cs : List WCall) (hc : NonNullCalls cs) :
    let w := ((World.init hasShx).run cs).call .finalize
    w.2 = .ok () ∧ w.1.shp.data = shpFile (acceptedOf cs) ∧ (hasShx = true → w.1.shx.data = shxFile (acceptedOf cs)) := by
  have h := WInv.reachable hasShx cs hc
  exact ⟨h.finalize.1, h.drop.1, fun hx => h.drop.2.1 ((World.run_hasShx _ cs).trans hx)⟩

/-- finalize on a writer with nothing new to commit performs no I/O and changes nothing -/
theorem finalize_clean_no_io (w : World) (hd : w.st.dirty = false) :
    (planFinalize w.st).ops = [] ∧ w.call .finalize = (w, .ok ()) :=
  ⟨by rw [planFinalize_clean hd], call_finalize_clean w hd⟩

/-- a finalize directly after a finalize performs no I/O -/
theorem finalize_then_finalize (hasShx : Bool) (cs : List WCall) (hc : NonNullCalls cs) :
    let w := (((World.init hasShx).run cs).call .finalize).1
    (planFinalize w.st).ops = [] :=
  (finalize_clean_no_io _ (WInv.reachable hasShx cs hc).finalize.2.2.1).1

/-- the successful finalize ends by flushing both destinations -/
theorem finalize_ends_with_flush (st : WState) (hd : st.dirty = true) :
    ((planFinalize st).ops.filter (·.1 = .shp)).getLast? = some (.shp, .flush) ∧
    (st.hasShx = true → ((planFinalize st).ops.filter (·.1 = .shx)).getLast? = some (.shx, .flush)) := by
  cases hx : st.hasShx <;> simp [planFinalize_dirty hd, finalizeOps, hx]

/-- non-vacuity: a concrete history with finalize first, a repeated finalize and no final finalize -/
example : NonNullCalls [.finalize, .writeShape (.point .xy Pt.default), .finalize, .finalize,
    .writeShape (.point .xy Pt.default)] := by
  unfold NonNullCalls
  decide

end Shp.C09
