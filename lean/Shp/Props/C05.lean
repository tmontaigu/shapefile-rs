/-
C05 — stored bounding boxes are exact: per shape and in the file header.
"Exact" = bit-identical to one of the values and IEEE-`<=` (resp. `>=`) all of them, for
non-NaN values including ±0, ±inf, the largest finite doubles: wherever the extreme sits.
-/
import Shp.Lemmas.Fold
import Shp.Lemmas.Writer
namespace Shp.C05
open Shp

/-- a dimension is only claimed when none of its values is NaN -/
structure BoxExact (d : Dim) (b : BBox) (pts : List Pt) : Prop where
  x : NoNaN (pts.map (·.x)) → IsMin b.min.x (pts.map (·.x)) ∧ IsMax b.max.x (pts.map (·.x))
  y : NoNaN (pts.map (·.y)) → IsMin b.min.y (pts.map (·.y)) ∧ IsMax b.max.y (pts.map (·.y))
  z : d.hasZ = true → NoNaN (pts.map (·.z)) → IsMin b.min.z (pts.map (·.z)) ∧ IsMax b.max.z (pts.map (·.z))
  m : d.hasM = true → NoNaN (pts.map (·.m)) → IsMin b.min.m (pts.map (·.m)) ∧ IsMax b.max.m (pts.map (·.m))

/-- MAIN (per shape): the box every constructor computes — first part, then the others, any
number of parts, the extreme anywhere — is exact over all vertices of all parts -/
theorem fromParts_exact (d : Dim) (parts : List (List Pt)) (b : BBox) (h : BBox.fromParts d parts = some b) :
    BoxExact d b parts.flatten := by
  match parts, h with
  | (p :: ps) :: rest, h =>
    rw [fromParts_eq] at h
    cases h
    exact ⟨foldl_shrink_grow_exact .x d rfl p _, foldl_shrink_grow_exact .y d rfl p _,
      fun hd => foldl_shrink_grow_exact .z d hd p _, fun hd => foldl_shrink_grow_exact .m d hd p _⟩
  | [] :: rest, h => simp [BBox.fromParts, BBox.fromPoints] at h
  | [], h => simp [BBox.fromParts] at h

theorem fromPoints_exact (d : Dim) (pts : List Pt) (b : BBox) (h : BBox.fromPoints d pts = some b) :
    BoxExact d b pts := by
  have : BBox.fromParts d [pts] = some b := by simp [BBox.fromParts, h]
  simpa using fromParts_exact d [pts] b this

/-- every public constructor: the shape it returns carries the exact box of its FINAL vertices
(after rings were closed and reordered) -/
theorem constructors_exact (o : Orient) (d : Dim) :
    (∀ pts s, Shape.mkMultipoint d pts = some s → ∃ b, s = .multipoint d b pts ∧ BoxExact d b pts) ∧
    (∀ pts s, Shape.mkPolyline d pts = some s → ∃ b, s = .polyline d b [pts] ∧ BoxExact d b pts) ∧
    (∀ parts s, Shape.mkPolylineParts d parts = some s → ∃ b, s = .polyline d b parts ∧ BoxExact d b parts.flatten) ∧
    (∀ rings s, Shape.mkPolygonRings o d rings = some s →
        ∃ b rs, s = .polygon d b rs ∧ rs = rings.map (closeAndReorder o d) ∧ BoxExact d b (rs.map (·.2)).flatten) ∧
    (∀ patches s, Shape.mkMultipatchParts patches = some s →
        ∃ b ps, s = .multipatch b ps ∧ ps = patches.map Shape.closePatch ∧ BoxExact .xyzm b (ps.map (·.2)).flatten) := by
  -- every constructor maps the box of its vertices, if there is one, into the shape
  have box {o : Option BBox} {f : BBox → Shape} {s : Shape} {d : Dim} {pts : List Pt}
      (hex : ∀ b, o = some b → BoxExact d b pts) (h : o.map f = some s) : ∃ b, s = f b ∧ BoxExact d b pts :=
    let ⟨b, hb, hs⟩ := Option.map_eq_some_iff.mp h
    ⟨b, hs.symm, hex b hb⟩
  refine ⟨fun pts s h => box (fromPoints_exact d pts) h,
    fun pts s h => box (fromPoints_exact d pts) (Option.ite_none_left_eq_some.mp h).2,
    fun parts s h => box (fromParts_exact d parts) (Option.ite_none_left_eq_some.mp h).2,
    fun rings s h => ?_, fun patches s h => ?_⟩
  · obtain ⟨b, rfl, hb⟩ := box (fromParts_exact d _) h
    exact ⟨b, _, rfl, rfl, hb⟩
  · obtain ⟨b, rfl, hb⟩ := box (fromParts_exact .xyzm _) h
    exact ⟨b, _, rfl, rfl, hb⟩

theorem sentinelMin_eq : F64.sentinelMin = F64.posInf := by decide
theorem sentinelMax_eq : F64.sentinelMax = F64.negInf := by decide

theorem eq_posInf (x : F64) (hx : x.isNaN = false) (h : F64.posInf.le x = true) : x = F64.posInf :=
  (F64.eq_of_key_eq (Int.le_antisymm (F64.le_iff.mp h).2.2 (F64.key_bounds hx).2)
    (by decide)).symm

theorem eq_negInf (x : F64) (hx : x.isNaN = false) (h : x.le F64.negInf = true) : x = F64.negInf :=
  (F64.eq_of_key_eq (Int.le_antisymm (F64.key_bounds hx).1 (F64.le_iff.mp h).2.2)
    (by decide)).symm

/-- the running header range: `f64_min(shape's low, running)` from the +inf sentinel -/
theorem header_fold_min (vals : List F64) (hne : vals ≠ []) (hn : NoNaN vals) :
    IsMin (vals.foldl (fun acc v => F64.fmin v acc) F64.posInf) vals :=
  select_of_sentinel (fun a b : F64 => a.le b = true) hne (fun x hx => eq_posInf x (hn x hx))
    (foldl_select (fun a b : F64 => a.le b = true) (fun _ _ ha hb => (F64.fmin_sel hb ha).symm)
      (fun _ _ _ => F64.le_trans) vals F64.posInf
      (List.forall_mem_cons.mpr ⟨F64.posInf_notNaN, hn⟩))

theorem header_fold_max (vals : List F64) (hne : vals ≠ []) (hn : NoNaN vals) :
    IsMax (vals.foldl (fun acc v => F64.fmax v acc) F64.negInf) vals :=
  select_of_sentinel (fun a b : F64 => b.le a = true) hne (fun x hx => eq_negInf x (hn x hx))
    (foldl_select (fun a b : F64 => b.le a = true) (fun _ _ ha hb => (F64.fmax_sel hb ha).symm)
      (fun _ _ _ h1 h2 => F64.le_trans h2 h1) vals F64.negInf
      (List.forall_mem_cons.mpr ⟨F64.negInf_notNaN, hn⟩))

/-- the two replacements in `finalizeBox` (M, then Z on the result) do not interact -/
theorem finalizeBox_eq (b : BBox) :
    finalizeBox b =
      ⟨{ b.min with z := if b.max.z.feq F64.sentinelMax && b.min.z.feq F64.sentinelMin then F64.zero else b.min.z,
                    m := if b.max.m.feq F64.sentinelMax && b.min.m.feq F64.sentinelMin then F64.zero else b.min.m },
       { b.max with z := if b.max.z.feq F64.sentinelMax && b.min.z.feq F64.sentinelMin then F64.zero else b.max.z,
                    m := if b.max.m.feq F64.sentinelMax && b.min.m.feq F64.sentinelMin then F64.zero else b.max.m }⟩ := by
  unfold finalizeBox
  by_cases hm : (b.max.m.feq F64.sentinelMax && b.min.m.feq F64.sentinelMin) = true <;>
  by_cases hz : (b.max.z.feq F64.sentinelMax && b.min.z.feq F64.sentinelMin) = true <;>
  simp only [hm, hz, if_true, if_false, Bool.false_eq_true]

theorem sentinels_feq : (F64.sentinelMax.feq F64.sentinelMax && F64.sentinelMin.feq F64.sentinelMin) = true := by decide

theorem finalizeBox_zero (k : Coord) (hasZ hasM : Bool) (hk : k.on hasZ hasM = false) (b : BBox)
    (h1 : k.get b.min = F64.sentinelMin) (h2 : k.get b.max = F64.sentinelMax) :
    k.get (finalizeBox b).min = F64.zero ∧ k.get (finalizeBox b).max = F64.zero := by
  cases k
  case z | m =>
    simp only [Coord.get] at h1 h2 ⊢
    simp only [finalizeBox_eq, h1, h2, sentinels_feq, if_true, and_self]
  -- every type carries X and Y
  all_goals cases hk

theorem finalizeBox_m (b : BBox) (h1 : b.min.m = F64.sentinelMin) (h2 : b.max.m = F64.sentinelMax) :
    (finalizeBox b).min.m = F64.zero ∧ (finalizeBox b).max.m = F64.zero :=
  finalizeBox_zero .m false false rfl b h1 h2

/-- `k.on false false = true` says `k` is X or Y -/
theorem finalizeBox_keep (k : Coord) (b : BBox)
    (h : k.on false false = true ∨ ((k.get b.max).feq F64.sentinelMax && (k.get b.min).feq F64.sentinelMin) = false) :
    k.get (finalizeBox b).min = k.get b.min ∧ k.get (finalizeBox b).max = k.get b.max := by
  rw [finalizeBox_eq]
  cases k <;> simp only [Coord.get, Coord.on, Bool.false_eq_true, false_or, and_self] at h ⊢
  -- that settles X and Y; for Z and M `h` decides the `if`s
  all_goals simp only [h, Bool.false_eq_true, if_false, and_self]

theorem growFromShape_coord (k : Coord) (t : ShapeType) (b : BBox) (s : Shape) :
    k.get (growFromShape t b s).min =
      (if k.on t.hasZ t.hasM then F64.fmin (k.get s.ranges.1) (k.get b.min) else k.get b.min) ∧
    k.get (growFromShape t b s).max =
      (if k.on t.hasZ t.hasM then F64.fmax (k.get s.ranges.2) (k.get b.max) else k.get b.max) := by
  cases k <;> exact ⟨rfl, rfl⟩

theorem sentinelBox_coord (k : Coord) :
    k.get sentinelBox.min = F64.sentinelMin ∧ k.get sentinelBox.max = F64.sentinelMax := by
  cases k <;> exact ⟨rfl, rfl⟩

theorem boxOf_coord (k : Coord) (s : Shape) (ss : List Shape) (hk : k.on s.writeType.hasZ s.writeType.hasM = true) :
    k.get (boxOf (s :: ss)).min = ((s :: ss).map (k.get ·.ranges.1)).foldl (fun acc v => F64.fmin v acc) F64.posInf ∧
    k.get (boxOf (s :: ss)).max = ((s :: ss).map (k.get ·.ranges.2)).foldl (fun acc v => F64.fmax v acc) F64.negInf := by
  rw [← sentinelMin_eq, ← sentinelMax_eq, ← (sentinelBox_coord k).1, ← (sentinelBox_coord k).2]
  exact ⟨foldl_proj (fun b : BBox => k.get b.min) _ (fun b x => by rw [(growFromShape_coord k _ b x).1, if_pos hk]) _ _,
    foldl_proj (fun b : BBox => k.get b.max) _ (fun b x => by rw [(growFromShape_coord k _ b x).2, if_pos hk]) _ _⟩

theorem boxOf_absent (k : Coord) (s : Shape) (ss : List Shape) (hk : k.on s.writeType.hasZ s.writeType.hasM = false) :
    k.get (boxOf (s :: ss)).min = F64.sentinelMin ∧ k.get (boxOf (s :: ss)).max = F64.sentinelMax := by
  have hk := ne_true_of_eq_false hk
  rw [← (sentinelBox_coord k).1, ← (sentinelBox_coord k).2]
  exact ⟨foldl_keep (fun b : BBox => k.get b.min) (fun b x => by rw [(growFromShape_coord k _ b x).1, if_neg hk]) _ _,
    foldl_keep (fun b : BBox => k.get b.max) (fun b x => by rw [(growFromShape_coord k _ b x).2, if_neg hk]) _ _⟩

theorem not_sentinels_of_le {lo hi : F64} (h : lo.le hi = true) :
    (hi.feq F64.sentinelMax && lo.feq F64.sentinelMin) = false := by
  -- the sentinels are +inf > -inf
  have k := (F64.le_iff.mp h).2.2
  refine Bool.eq_false_iff.mpr fun hs => ?_
  obtain ⟨h1, h2⟩ := Bool.and_eq_true_iff.mp hs
  rw [(F64.feq_iff.mp h1).2.2, (F64.feq_iff.mp h2).2.2] at k
  exact absurd k (by decide)

theorem not_both_sentinels (lo hi : F64) (vals : List F64) (hne : vals ≠ []) (hn : NoNaN vals)
    (hmin : IsMin lo vals) (hmax : IsMax hi vals) :
    (hi.feq F64.sentinelMax && lo.feq F64.sentinelMin) = false :=
  not_sentinels_of_le (hmin.le_isMax hmax hne)

/-- for Z and M finalization must not take the range for the untouched sentinels: `hle` rules that out -/
theorem header_coord_exact (k : Coord) (s : Shape) (ss : List Shape) (hk : k.on s.writeType.hasZ s.writeType.hasM = true)
    (hlo : NoNaN ((s :: ss).map (k.get ·.ranges.1))) (hhi : NoNaN ((s :: ss).map (k.get ·.ranges.2)))
    (hle : k.on false false = true ∨
      (((s :: ss).map (k.get ·.ranges.1)).foldl (fun acc v => F64.fmin v acc) F64.posInf).le
        (((s :: ss).map (k.get ·.ranges.2)).foldl (fun acc v => F64.fmax v acc) F64.negInf) = true) :
    IsMin (k.get (finalHeader (s :: ss)).bbox.min) ((s :: ss).map (k.get ·.ranges.1)) ∧
    IsMax (k.get (finalHeader (s :: ss)).bbox.max) ((s :: ss).map (k.get ·.ranges.2)) := by
  have hbox := boxOf_coord k s ss hk
  have hfin := finalizeBox_keep k (boxOf (s :: ss)) <| hle.imp_right fun h => by
    rw [hbox.1, hbox.2]
    exact not_sentinels_of_le h
  show IsMin (k.get (finalizeBox (boxOf (s :: ss))).min) _ ∧ IsMax (k.get (finalizeBox (boxOf (s :: ss))).max) _
  rw [hfin.1, hfin.2, hbox.1, hbox.2]
  exact ⟨header_fold_min _ (List.cons_ne_nil _ _) hlo, header_fold_max _ (List.cons_ne_nil _ _) hhi⟩

/-- MAIN (header, X and Y): after finalization the header's X/Y range is the exact extreme of
the written shapes' ranges, for any non-NaN values — ±inf included — whichever shape holds it -/
theorem header_xy_exact (s : Shape) (ss : List Shape)
    (hx : NoNaN ((s :: ss).map (·.ranges.1.x))) (hX : NoNaN ((s :: ss).map (·.ranges.2.x)))
    (hy : NoNaN ((s :: ss).map (·.ranges.1.y))) (hY : NoNaN ((s :: ss).map (·.ranges.2.y))) :
    let h := finalHeader (s :: ss)
    IsMin h.bbox.min.x ((s :: ss).map (·.ranges.1.x)) ∧ IsMax h.bbox.max.x ((s :: ss).map (·.ranges.2.x)) ∧
    IsMin h.bbox.min.y ((s :: ss).map (·.ranges.1.y)) ∧ IsMax h.bbox.max.y ((s :: ss).map (·.ranges.2.y)) :=
  have ex := header_coord_exact .x s ss rfl hx hX (.inl rfl)
  have ey := header_coord_exact .y s ss rfl hy hY (.inl rfl)
  ⟨ex.1, ex.2, ey.1, ey.2⟩

/-- header ranges of dimensions the file's type does not carry are 0; an empty file has an
all-zero box -/
theorem header_absent_dims (s : Shape) (ss : List Shape) :
    (s.writeType.hasZ = false → (finalHeader (s :: ss)).bbox.min.z = F64.zero ∧ (finalHeader (s :: ss)).bbox.max.z = F64.zero) ∧
    (s.writeType.hasM = false → (finalHeader (s :: ss)).bbox.min.m = F64.zero ∧ (finalHeader (s :: ss)).bbox.max.m = F64.zero) ∧
    (finalHeader []).bbox = ⟨zeroPt, zeroPt⟩ := by
  have absent (k : Coord) (hk : k.on s.writeType.hasZ s.writeType.hasM = false) :=
    finalizeBox_zero k _ _ hk _ (boxOf_absent k s ss hk).1 (boxOf_absent k s ss hk).2
  exact ⟨absent .z, absent .m, by decide⟩

/-- Z range of Z-typed (and multipatch) files.  `hsame`: the two folds are minimum and maximum of one
non-empty list, hence ordered: the `hle` of `header_coord_exact` (`NoNaN vals` is unused). -/
theorem header_z_exact (s : Shape) (ss : List Shape) (ht : s.writeType.hasZ = true)
    (hz : NoNaN ((s :: ss).map (·.ranges.1.z))) (hZ : NoNaN ((s :: ss).map (·.ranges.2.z)))
    (hsame : ∃ vals, vals ≠ [] ∧ NoNaN vals ∧
      IsMin (((s :: ss).map (·.ranges.1.z)).foldl (fun acc v => F64.fmin v acc) F64.posInf) vals ∧
      IsMax (((s :: ss).map (·.ranges.2.z)).foldl (fun acc v => F64.fmax v acc) F64.negInf) vals) :
    let h := finalHeader (s :: ss)
    IsMin h.bbox.min.z ((s :: ss).map (·.ranges.1.z)) ∧ IsMax h.bbox.max.z ((s :: ss).map (·.ranges.2.z)) :=
  have ⟨_, hne, _, hmn, hmx⟩ := hsame
  header_coord_exact .z s ss ht hz hZ (.inr (hmn.le_isMax hmx hne))

/-- M range of M-carrying files (M and Z types), as `header_z_exact` -/
theorem header_m_exact (s : Shape) (ss : List Shape) (ht : s.writeType.hasM = true)
    (hm : NoNaN ((s :: ss).map (·.ranges.1.m))) (hM : NoNaN ((s :: ss).map (·.ranges.2.m)))
    (hsame : ∃ vals, vals ≠ [] ∧ NoNaN vals ∧
      IsMin (((s :: ss).map (·.ranges.1.m)).foldl (fun acc v => F64.fmin v acc) F64.posInf) vals ∧
      IsMax (((s :: ss).map (·.ranges.2.m)).foldl (fun acc v => F64.fmax v acc) F64.negInf) vals) :
    let h := finalHeader (s :: ss)
    IsMin h.bbox.min.m ((s :: ss).map (·.ranges.1.m)) ∧ IsMax h.bbox.max.m ((s :: ss).map (·.ranges.2.m)) :=
  have ⟨_, hne, _, hmn, hmx⟩ := hsame
  header_coord_exact .m s ss ht hm hM (.inr (hmn.le_isMax hmx hne))

/-- from exact per-shape ranges and a header exact over those to a header exact over all the values -/
theorem isMin_of_parts (mins : List F64) (groups : List (List F64)) (v : F64)
    (hlen : mins.length = groups.length)
    (hex : ∀ i (h1 : i < mins.length) (h2 : i < groups.length), IsMin mins[i] groups[i])
    (hv : IsMin v mins) (hnn : NoNaN (v :: groups.flatten)) : IsMin v groups.flatten := by
  obtain ⟨hmem, hle⟩ := hv
  obtain ⟨i, hi, hvi⟩ := List.getElem_of_mem hmem
  have hi2 : i < groups.length := by omega
  refine ⟨List.mem_flatten.mpr ⟨groups[i], List.getElem_mem hi2, hvi ▸ (hex i hi hi2).1⟩, fun x hx => ?_⟩
  obtain ⟨g, hg, hxg⟩ := List.mem_flatten.mp hx
  obtain ⟨j, hj, rfl⟩ := List.getElem_of_mem hg
  have hj1 : j < mins.length := by omega
  exact F64.le_trans (hle mins[j] (List.getElem_mem hj1)) ((hex j hj1 hj).2 x hxg)

/-- non-vacuity: a box whose minimum is +inf in X -/
example : IsMin F64.posInf [F64.posInf] ∧ NoNaN [F64.posInf] :=
  ⟨⟨List.mem_cons_self, List.forall_mem_singleton.mpr (F64.le_refl F64.posInf_notNaN)⟩,
    List.forall_mem_singleton.mpr F64.posInf_notNaN⟩

end Shp.C05
