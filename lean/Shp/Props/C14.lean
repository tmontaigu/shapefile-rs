/-
C14 — with an index, records are located by the index alone.
No assumption on the physical order of the records, on gaps or filler between them, or on the
length the .shp header declares: only that each index entry points at a decodable record.
-/
import Shp.Lemmas.ReadAll
namespace Shp.C14
open Shp

/-- MAIN: iteration yields one shape per index entry, in index order, each the record stored at
that entry's offset -/
theorem iteration_follows_index (o : Orient) (tg : Target) (shp shx : Bytes) (idx : List IndexEntry)
    (shapes : List Shape) (h : Header) (rest xr : Bytes)
    (hx : readIndexFile shx = .ok idx xr) (hh : readHeader shp = .ok h rest)
    (ha : Addressable o tg shp idx shapes) :
    readAll o tg shp (some shx) = .ok shapes := by
  obtain ⟨st, hopen, hinv, hn⟩ := open_addressable o tg shp shx idx shapes h rest xr hx hh ha
  rw [readAll_ok hopen]
  exact hinv.collect hn

/-- an index without entries yields nothing, whatever the .shp holds behind its header (stale
records, filler): the reader does not fall back to sequential reading -/
theorem empty_index_yields_nothing (o : Orient) (tg : Target) (shp shx : Bytes) (h : Header) (rest xr : Bytes)
    (hx : readIndexFile shx = .ok [] xr) (hh : readHeader shp = .ok h rest) :
    readAll o tg shp (some shx) = .ok [] :=
  iteration_follows_index o tg shp shx [] [] h rest xr hx hh
    ⟨rfl, fun i h1 _ => absurd h1 (by simp)⟩

theorem iteration_eq_random_access (o : Orient) (tg : Target) (shp shx : Bytes) (idx : List IndexEntry)
    (shapes : List Shape) (h : Header) (rest xr : Bytes)
    (hx : readIndexFile shx = .ok idx xr) (hh : readHeader shp = .ok h rest)
    (ha : Addressable o tg shp idx shapes) :
    ∃ st, RState.open shp (some shx) = .ok st ∧ st.shapeCount = .count shapes.length ∧
      (∀ i (hi : i < shapes.length), (st.readNth o tg i).2 = .shape shapes[i]) ∧
      (∀ i, shapes.length ≤ i → (st.readNth o tg i).2 = .none) := by
  obtain ⟨st, hopen, hinv, _⟩ := open_addressable o tg shp shx idx shapes h rest xr hx hh ha
  refine ⟨st, hopen, hinv.shapeCount, ?_, ?_⟩
  · intro i hi
    obtain ⟨st', he, _, _⟩ := hinv.readNth i hi
    rw [he]
  · intro i hi
    rw [hinv.readNth_none i hi]

/-- how the hypothesis is met: an entry pointing at the start of a record written by the
writer's encoder, wherever it sits in the file and whatever follows it -/
theorem recordAt_of_encoded (o : Orient) (tg : Target) (pre post : Bytes) (num : Int) (s : Shape) (off : Nat)
    (hpre : pre.length = 2 * off) (hn : InI32 num) (hs : s.Sized) (hnull : s ≠ .null)
    (htg : tg.Accepts s.writeType) :
    RecordAt o tg (pre ++ encRecord num s.writeType s ++ post) ⟨off, recordSizeWords s⟩ (s.readBack o) := by
  refine RecordAt.of_drop (by simp) ?_ (readOneShape_encRecord o tg num s post hn hs hnull htg)
    (encRecord_length _ _ _)
  rw [List.append_assoc]
  exact List.drop_left' (by simp only; omega)

/-- non-vacuity: an index whose FIRST entry points behind its second one (the records are not in
physical order, 34 filler bytes precede the record) addresses the record stored there -/
example (o : Orient) : ∃ (data : Bytes) (idx : List IndexEntry) (shapes : List Shape),
    RecordAt o .generic data idx[0]! shapes[0]! ∧ (idx[0]!).offset > (idx[1]!).offset := by
  let a := Shape.point .xy Pt.default
  refine ⟨zeros 134 ++ encRecord 1 a.writeType a ++ [], [⟨67, recordSizeWords a⟩, ⟨50, recordSizeWords a⟩],
    [a.readBack o, a.readBack o], ?_, by decide⟩
  exact recordAt_of_encoded o .generic (zeros 134) [] 1 a 67 (by simp [zeros]) (by decide) (by decide)
    (by simp [a]) trivial

end Shp.C14
