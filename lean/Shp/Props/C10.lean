/-
C10 — a writer holds one shape type; a rejected write changes nothing.
-/
import Shp.Lemmas.History
namespace Shp.C10
open Shp

/-- a write of another type than the file's fails with the mismatch error naming the file's type
(requested) and the offered type (actual), and leaves the WHOLE world — state and both
destinations, hence every byte and every position — untouched: no I/O at all. -/
theorem rejected_write_changes_nothing (w : World) (s : Shape)
    (hn : w.st.header.shapeType ≠ .nullShape) (ht : w.st.header.shapeType ≠ s.writeType) :
    w.call (.writeShape s) = (w, .error (.mismatch w.st.header.shapeType s.writeType)) ∧
    plan w.st (.writeShape s) = .error (.mismatch w.st.header.shapeType s.writeType) :=
  ⟨call_write_rejected w s hn ht, plan_write_rejected w.st s hn ht⟩

/-- in any reachable state: the file's type is the type of the first accepted shape, and a shape of
another type is rejected -/
theorem reachable_rejects (hasShx : Bool) (cs : List WCall) (hc : NonNullCalls cs) (s : Shape)
    (hne : acceptedOf cs ≠ []) (ht : fileTypeOf (acceptedOf cs) ≠ s.writeType) :
    let w := (World.init hasShx).run cs
    w.call (.writeShape s) = (w, .error (.mismatch (fileTypeOf (acceptedOf cs)) s.writeType)) := by
  intro w
  exact (WInv.reachable hasShx cs hc).call_rejected fun ha => ha.elim hne ht

/-- the world after a history equals the world after the same history with the rejected calls
removed: identical bytes in both destinations, identical positions, identical state -/
theorem run_eq_run_kept (w : World) (ss : List Shape) (h : WInv w ss) (cs : List WCall) (hc : NonNullCalls cs) :
    w.run cs = w.run (keptFrom ss cs) := by
  induction cs generalizing w ss with
  | nil => rfl
  | cons c cs ih =>
    have hc' := hc.tail
    have h1 := h.call c (hc c List.mem_cons_self)
    cases c with
    | finalize => exact ih _ ss h1 hc'
    | writeShape s =>
      by_cases ha : accepts ss s
      · rw [acceptStep, if_pos ha] at h1
        simp only [keptFrom, if_pos ha, World.run_cons]
        exact ih _ _ h1 hc'
      · simp only [keptFrom, if_neg ha, World.run_cons, h.call_rejected ha]
        exact ih w ss h hc'

theorem history_eq_history_without_rejected (hasShx : Bool) (cs : List WCall) (hc : NonNullCalls cs) :
    (World.init hasShx).run cs = (World.init hasShx).run (keptFrom [] cs) :=
  run_eq_run_kept _ [] (WInv.init hasShx) cs hc

/-- `ShapeWriter::write_shapes(self, container)`: `write_shape` for each element, stopping at the
first error; the writer is consumed, so it is dropped on every path -/
def writeShapes : World → List Shape → World × Except Err Unit
  | w, [] => (w.drop, .ok ())
  | w, s :: ss =>
    match w.call (.writeShape s) with
    | (w', .ok ()) => writeShapes w' ss
    | (w', .error e) => (w'.drop, .error e)

/-- the bulk call offered shapes of another type than the file's: the mismatch error, and the
files left behind are exactly those of dropping the writer at that point — the offered shapes,
the first as well as those after it, leave no trace -/
theorem write_shapes_rejected (w : World) (s : Shape) (ss : List Shape)
    (hn : w.st.header.shapeType ≠ .nullShape) (ht : w.st.header.shapeType ≠ s.writeType) :
    writeShapes w (s :: ss) = (w.drop, .error (.mismatch w.st.header.shapeType s.writeType)) := by
  simp only [writeShapes, call_write_rejected w s hn ht]

/-- on any reachable writer that has accepted a shape: a bulk call whose first shape has another
type fails with the mismatch error and leaves the complete .shp of the shapes accepted before it -/
theorem write_shapes_rejected_files (hasShx : Bool) (cs : List WCall) (hc : NonNullCalls cs) (s : Shape)
    (ss : List Shape) (hne : acceptedOf cs ≠ []) (ht : fileTypeOf (acceptedOf cs) ≠ s.writeType) :
    let w := (World.init hasShx).run cs
    (writeShapes w (s :: ss)).2 = .error (.mismatch (fileTypeOf (acceptedOf cs)) s.writeType) ∧
    (writeShapes w (s :: ss)).1.shp.data = shpFile (acceptedOf cs) := by
  intro w
  have h : WInv w (acceptedOf cs) := WInv.reachable hasShx cs hc
  rw [write_shapes_rejected w s ss (mt h.null_iff.1 hne) (h.shapeType ▸ ht), h.shapeType]
  exact ⟨rfl, h.drop.1⟩

/-- non-vacuity: a Point file rejects a PolylineZ, naming both types -/
example : plan { WState.init true with header := { Header.default with shapeType := .point } }
    (.writeShape (.polyline .xyzm BBox.default [])) = .error (.mismatch .point .polylineZ) := by
  rfl

end Shp.C10
