/-
C08 — shapes and attribute rows stay paired one-to-one through write and read.
The full statement is FALSE of the code as it stands (see `row_rejection_breaks_pairing`: a row
rejected by dbase leaves a shape without a row; recorded as a known finding, it cannot be repaired
inside this crate because dbase has by then emitted part of the row).  What is proved is the
statement restricted to histories in which dbase accepts every row it is offered.
-/
import Shp.Model.Pairs
import Shp.Lemmas.History
namespace Shp.C08
open Shp

def shapeCalls (h : List (Shape × Bool)) : List WCall := h.map fun p => .writeShape p.1

theorem call_written (pw : PWorld) (s : Shape) (rowOk : Bool) (h : (pw.w.call (.writeShape s)).2 = .ok ()) :
    pw.call s rowOk =
      if rowOk then (⟨(pw.w.call (.writeShape s)).1, pw.rows + 1⟩, .ok ())
      else (⟨(pw.w.call (.writeShape s)).1, pw.rows⟩, .error .dbase) := by
  unfold PWorld.call
  rw [show pw.w.call (.writeShape s) = ((pw.w.call (.writeShape s)).1, .ok ()) from Prod.ext rfl h]

/-- PARTIAL (rows never rejected): for EVERY history of write_shape_and_record calls — shapes of
the file's type and shapes of other types interleaved in any way — the number of rows equals the
number of records in the .shp and of entries in the .shx, after every call. -/
theorem counts_equal_partial (h : List (Shape × Bool)) (hrows : ∀ p ∈ h, p.2 = true)
    (hnn : ∀ p ∈ h, p.1 ≠ .null) (pw : PWorld) (ss : List Shape) (hinv : WInv pw.w ss) (hr : pw.rows = ss.length) :
    ∃ ss', WInv (pw.run h).w ss' ∧ (pw.run h).rows = ss'.length ∧ ss' = (shapeCalls h).foldl acceptStep ss := by
  induction h generalizing pw ss with
  | nil => exact ⟨ss, hinv, hr, rfl⟩
  | cons p rest ih =>
    obtain ⟨s, ok⟩ := p
    obtain ⟨rfl, hrows'⟩ := List.forall_mem_cons.1 hrows
    obtain ⟨hs, hnn'⟩ := List.forall_mem_cons.1 hnn
    simp only [PWorld.run, shapeCalls, List.map_cons, List.foldl_cons]
    by_cases ha : accepts ss s
    · -- accepted shape: one more record, one more row
      have hw := hinv.write s (s.writeType_ne_null hs) ha
      rw [call_written pw s true hw.1, acceptStep, if_pos ha]
      exact ih hrows' hnn' ⟨_, pw.rows + 1⟩ (ss ++ [s]) hw.2.1 (by simp [hr])
    · -- rejected shape: nothing written, no row
      rw [PWorld.call, hinv.call_rejected ha, acceptStep, if_neg ha]
      exact ih hrows' hnn' ⟨pw.w, pw.rows⟩ ss hinv hr

/-- through the complete writer a rejected shape's row is not written either, and nothing changes -/
theorem rejected_shape_writes_no_row (pw : PWorld) (s : Shape) (rowOk : Bool)
    (hn : pw.w.st.header.shapeType ≠ .nullShape) (ht : pw.w.st.header.shapeType ≠ s.writeType) :
    pw.call s rowOk = (pw, .error (.mismatch pw.w.st.header.shapeType s.writeType)) := by
  unfold PWorld.call
  rw [call_write_rejected pw.w s hn ht]

/-- the reader pairs shape `i` with row `i`: equal counts give back exactly the pairs -/
theorem zipRead_pairs {α β : Type} (l : List (α × β)) : zipRead (l.map (·.1)) (l.map (·.2)) = l := by
  induction l with
  | nil => rfl
  | cons a as ih => simp [zipRead, ih]

/-- WITNESS that the full statement fails (known finding `row-rejected-after-shape-committed`):
one pair whose row dbase rejects leaves one shape record and zero rows -/
theorem row_rejection_breaks_pairing :
    ∃ (s : Shape), let pw := (PWorld.init.call s false).1
      pw.rows = 0 ∧ WInv pw.w [s] := by
  refine ⟨.point .xy Pt.default, ?_⟩
  have hinv := (WInv.init true).write (.point .xy Pt.default) (by decide) (Or.inl rfl)
  rw [call_written PWorld.init _ false hinv.1, if_neg Bool.false_ne_true]
  exact ⟨rfl, hinv.2.1⟩

end Shp.C08
