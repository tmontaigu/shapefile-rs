/-
C16 — polygon and multipatch constructors close and orient rings, losing no vertex.
Closure and vertex preservation: for EVERY orientation function (the float shoelace included).
Orientation: for the exact signed area over integer (bounded dyadic) coordinates.
-/
import Shp.Lemmas.Fold
namespace Shp.C16
open Shp

theorem closePoints_of_closed (d : Dim) (l : List Pt) (h : isClosed d l = true) : closePoints d l = l :=
  if_pos h

theorem closePoints_of_open (d : Dim) (l : List Pt) (p : Pt) (h : isClosed d l = false) (hp : l.head? = some p) :
    closePoints d l = l ++ [p] := by
  simp only [closePoints, h, hp, Bool.false_eq_true, if_false]

theorem closePoints_eq (d : Dim) (pts : List Pt) :
    closePoints d pts = pts ∨ ∃ p, pts.head? = some p ∧ closePoints d pts = pts ++ [p] := by
  cases h : isClosed d pts
  · cases hp : pts.head? with
    | none => rw [List.head?_eq_none_iff.mp hp]; exact .inl rfl
    | some p => exact .inr ⟨p, rfl, closePoints_of_open d pts p h hp⟩
  · exact .inl (closePoints_of_closed d pts h)

def PtNoNaN (d : Dim) (p : Pt) : Prop :=
  p.x.isNaN = false ∧ p.y.isNaN = false ∧ (d.hasZ = true → p.z.isNaN = false) ∧ (d.hasM = true → p.m.isNaN = false)

/-- `hn`: `is_part_closed` compares with IEEE `==`, under which a NaN vertex differs from its own copy -/
theorem closePoints_closed (d : Dim) (pts : List Pt) (p : Pt) (hp : pts.head? = some p) (hn : PtNoNaN d p) :
    isClosed d (closePoints d pts) = true := by
  cases h : isClosed d pts
  · -- the appended copy of the first vertex is first and last
    rw [closePoints_of_open d pts p h hp]
    simp only [isClosed, List.head?_append, hp, Option.some_or, List.getLast?_concat,
      Pt.peq_refl d p hn]
  · rwa [closePoints_of_closed d pts h]

theorem orderPoints_of_role (o : Orient) (role : Role) (l : List Pt) (h : roleOf o l = role) :
    orderPoints o role l = l :=
  if_pos h

theorem closePoints_idem (d : Dim) (pts : List Pt) (p : Pt) (hp : pts.head? = some p) (hn : PtNoNaN d p) :
    closePoints d (closePoints d pts) = closePoints d pts :=
  closePoints_of_closed d _ (closePoints_closed d pts p hp hn)

theorem isClosed_reverse (d : Dim) (pts : List Pt) : isClosed d pts.reverse = isClosed d pts := by
  unfold isClosed
  simp only [List.head?_reverse, List.getLast?_reverse]
  cases pts.getLast? <;> cases pts.head? <;> simp [Pt.peq_symm]

/-- MAIN (vertices): each ring of a constructed polygon is the caller's sequence after
`close_points_if_not_already`, kept or reversed as a whole — nothing lost, altered or moved; the
declared role is kept. For EVERY orientation function. -/
theorem closeAndReorder_spec (o : Orient) (d : Dim) (r : Role × List Pt) :
    (closeAndReorder o d r).1 = r.1 ∧
    ((closeAndReorder o d r).2 = closePoints d r.2 ∨ (closeAndReorder o d r).2 = (closePoints d r.2).reverse) := by
  refine ⟨rfl, ?_⟩
  simp only [closeAndReorder, orderPoints]
  split
  · exact Or.inl rfl
  · exact Or.inr rfl

theorem closeAndReorder_closed (o : Orient) (d : Dim) (r : Role × List Pt) (p : Pt)
    (hp : r.2.head? = some p) (hn : PtNoNaN d p) : isClosed d (closeAndReorder o d r).2 = true := by
  rcases (closeAndReorder_spec o d r).2 with h | h <;> rw [h]
  · exact closePoints_closed d r.2 p hp hn
  · rw [isClosed_reverse]; exact closePoints_closed d r.2 p hp hn

/-- `Polygon::with_rings` / `Polygon::new`: every ring goes through `close_and_reorder` -/
theorem polygon_rings (o : Orient) (d : Dim) (rings : List (Role × List Pt)) (s : Shape)
    (h : Shape.mkPolygonRings o d rings = some s) :
    ∃ b, s = .polygon d b (rings.map (closeAndReorder o d)) := by
  obtain ⟨b, -, rfl⟩ := Option.map_eq_some_iff.mp h
  exact ⟨b, rfl⟩

/-- multipatch parts: ring kinds are closed, strips and fans untouched -/
theorem closePatch_spec (p : PatchKind × List Pt) :
    (Shape.closePatch p).1 = p.1 ∧
    ((p.1 = .triangleStrip ∨ p.1 = .triangleFan) → Shape.closePatch p = p) ∧
    ((p.1 = .outerRing ∨ p.1 = .innerRing ∨ p.1 = .firstRing ∨ p.1 = .ring) →
        (Shape.closePatch p).2 = closePoints .xyzm p.2) := by
  obtain ⟨k, pts⟩ := p
  cases k <;> simp [Shape.closePatch, PatchKind.closes]

/-- doubled signed area in the code's convention: sum of (x₁ − x₀)(y₁ + y₀) over consecutive vertices -/
def shoelace2 : List (Int × Int) → Int
  | a :: b :: rest => (b.1 - a.1) * (b.2 + a.2) + shoelace2 (b :: rest)
  | _ => 0

theorem shoelace2_append_single (l : List (Int × Int)) (a b : Int × Int) :
    shoelace2 (l ++ [a, b]) = shoelace2 (l ++ [a]) + (b.1 - a.1) * (b.2 + a.2) := by
  induction l with
  | nil => simp [shoelace2]
  | cons x xs ih =>
    cases xs with
    | nil => simp [shoelace2]
    | cons y ys =>
      simp only [List.cons_append, shoelace2] at ih ⊢
      rw [ih]; omega

theorem shoelace2_reverse (l : List (Int × Int)) : shoelace2 l.reverse = - shoelace2 l := by
  induction l with
  | nil => rfl
  | cons a as ih =>
    cases as with
    | nil => rfl
    | cons b bs =>
      simp only [List.reverse_cons, List.append_assoc, List.cons_append, List.nil_append] at ih ⊢
      rw [shoelace2_append_single, ih]
      simp only [shoelace2]
      have e : (a.1 - b.1) * (a.2 + b.2) = -((b.1 - a.1) * (b.2 + a.2)) := by
        rw [← Int.neg_sub, Int.neg_mul, Int.add_comm]
      rw [e]; omega

/-- the exact orientation test on points whose coordinates denote integers via `coord` -/
def exactOrient (coord : Pt → Int × Int) : Orient := fun pts => decide (shoelace2 (pts.map coord) < 0)

theorem roleOf_exactOrient (coord : Pt → Int × Int) (pts : List Pt) :
    roleOf (exactOrient coord) pts = if shoelace2 (pts.map coord) < 0 then .inner else .outer := by
  simp only [roleOf, exactOrient, decide_eq_true_eq]

theorem roleOf_exact (coord : Pt → Int × Int) (pts : List Pt) :
    (roleOf (exactOrient coord) pts = .inner ↔ shoelace2 (pts.map coord) < 0) := by
  rw [roleOf_exactOrient]
  split <;> simp [*]

/-- MAIN (orientation): with the exact area test a ring of non-zero area leaves construction in the
orientation of its declared role (inner iff area < 0 in the code's convention). -/
theorem orderPoints_orientation (coord : Pt → Int × Int) (role : Role) (pts : List Pt)
    (hne : shoelace2 (pts.map coord) ≠ 0) :
    roleOf (exactOrient coord) (orderPoints (exactOrient coord) role pts) = role := by
  unfold orderPoints
  split
  · assumption
  · next h =>
    -- the ring has the other role, so the other sign of area; its reverse has the negated area
    rw [roleOf_exactOrient] at h ⊢
    rw [List.map_reverse, shoelace2_reverse]
    cases role with
    | inner =>
      have : ¬ shoelace2 (pts.map coord) < 0 := fun hA => h (if_pos hA)
      exact if_pos (by omega)
    | outer =>
      have : shoelace2 (pts.map coord) < 0 := Decidable.by_contra fun hA => h (if_neg hA)
      exact if_neg (by omega)

/-- rebuilding a polygon from its own rings (non-zero exact area) changes nothing -/
theorem closeAndReorder_idem (coord : Pt → Int × Int) (d : Dim) (r : Role × List Pt) (p : Pt)
    (hp : r.2.head? = some p) (hn : PtNoNaN d p)
    (hne : shoelace2 ((closePoints d r.2).map coord) ≠ 0) :
    closeAndReorder (exactOrient coord) d (closeAndReorder (exactOrient coord) d r) =
      closeAndReorder (exactOrient coord) d r := by
  have hclosed := closeAndReorder_closed (exactOrient coord) d r p hp hn
  have horient := orderPoints_orientation coord r.1 (closePoints d r.2) hne
  simp only [closeAndReorder] at hclosed horient ⊢
  rw [closePoints_of_closed d _ hclosed, orderPoints_of_role _ _ _ horient]

/-- non-vacuity: the unit square walked counter-clockwise has negative area in this convention
(so it is an inner ring), and its reverse positive -/
example : shoelace2 [(0, 0), (1, 0), (1, 1), (0, 1), (0, 0)] = -2 ∧
    shoelace2 [(0, 0), (0, 1), (1, 1), (1, 0), (0, 0)] = 2 := by decide

end Shp.C16
