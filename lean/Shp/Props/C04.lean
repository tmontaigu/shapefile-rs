/-
C04 — the .shx written alongside a .shp addresses exactly its records.
-/
import Shp.Lemmas.ReadAll
import Shp.Props.C09
import Shp.Props.C14
namespace Shp.C04
open Shp

theorem written_files (ss : List Shape) (h : Homog ss) (hnn : ∀ s ∈ ss, s ≠ .null) :
    writeFiles true ss = (shpFile ss, shxFile ss) ∧ (writeFiles false ss).1 = shpFile ss := by
  have hc := h.nonNullCalls
  have h1 := C09.history_files true (ss.map .writeShape) hc
  have h2 := C09.history_files false (ss.map .writeShape) hc
  rw [acceptedOf_writes ss h] at h1 h2
  refine ⟨?_, h2.1⟩
  simp only [writeFiles]
  rw [h1.1, h1.2]; rfl

/-- the `.shx` header is the `.shp` header except for its length field, which is 50 + 4n words -/
theorem shx_header (ss : List Shape) :
    shxFile ss = (finalShxHeader ss).enc ++ entriesFrom 50 ss ∧
    finalShxHeader ss = { finalHeader ss with fileLength := 50 + 4 * ss.length } := ⟨rfl, rfl⟩

/-- entry `i` holds the word offset of record `i`'s header and that record's content length -/
theorem entry_value (off : Nat) (ss : List Shape) (i : Nat) (hi : i < ss.length) :
    (indexEntriesFrom off ss)[i]'(by simpa using hi) =
      ⟨off + totalWords (ss.take i), recordSizeWords ss[i]⟩ :=
  indexEntriesFrom_getElem off ss i hi

/-- at entry `i`'s byte offset the `.shp` holds record `i`'s header: its number (`i + 1`, as `k = 1`
in a file) and that content length -/
theorem entry_points_at_record (t : ShapeType) (ss : List Shape) (pre : Bytes) (k i : Nat) (hi : i < ss.length) :
    ∃ tail, (pre ++ recordsFrom t k ss).drop (pre.length + 2 * totalWords (ss.take i)) =
      encI32BE ((k + i : Nat) : Int) ++ encI32BE (recordSizeWords ss[i]) ++ tail := by
  refine ⟨encI32LE t.code ++ ss[i].encodeContent ++ recordsFrom t (k + i + 1) (ss.drop (i + 1)), ?_⟩
  rw [List.drop_length_add_append, recordsFrom_drop, List.drop_eq_getElem_cons hi, recordsFrom, encRecord]
  simp only [List.append_assoc]

/-- a reader given both files yields exactly the written shapes -/
theorem read_with_index (o : Orient) (tg : Target) (ss : List Shape) (hok : FileOK tg ss) :
    readAll o tg (shpFile ss) (some (shxFile ss)) = .ok (ss.map (Shape.readBack o)) :=
  let ⟨hx, hh, ha⟩ := written_pair o tg ss hok
  C14.iteration_follows_index o tg _ _ _ _ _ _ _ hx hh ha

/-- a reader given the `.shp` alone yields the written shapes too (bytes after the declared length
are ignored) -/
theorem read_without_index (o : Orient) (tg : Target) (ss : List Shape) (hok : FileOK tg ss) (extra : Bytes) :
    readAll o tg (shpFile ss ++ extra) none = .ok (ss.map (Shape.readBack o)) := by
  obtain ⟨st2, hopen2, hinv2⟩ := open_written_noindex o tg ss hok extra
  rw [readAll_ok hopen2]
  exact hinv2.collect

/-- random access at `i < n` gives the `i`-th written shape as read back, and nothing past the end -/
theorem random_access (o : Orient) (tg : Target) (ss : List Shape) (hok : FileOK tg ss) :
    ∃ st, RState.open (shpFile ss) (some (shxFile ss)) = .ok st ∧
      st.shapeCount = .count ss.length ∧
      (∀ i (hi : i < ss.length), (st.readNth o tg i).2 = .shape (ss[i].readBack o)) ∧
      (∀ i, ss.length ≤ i → (st.readNth o tg i).2 = .none) := by
  obtain ⟨hx, hh, ha⟩ := written_pair o tg ss hok
  obtain ⟨st, hopen, hc, hnth, hnone⟩ := C14.iteration_eq_random_access o tg _ _ _ _ _ _ _ hx hh ha
  rw [List.length_map] at hc hnone
  exact ⟨st, hopen, hc, fun i hi => by rw [hnth i (by rwa [List.length_map]), List.getElem_map], hnone⟩

/-- after pulling `j` items the iterator's size hint is the number of shapes still to come -/
theorem size_hint (o : Orient) (tg : Target) (ss : List Shape) (hok : FileOK tg ss) (j : Nat) :
    ∃ st, RState.open (shpFile ss) (some (shxFile ss)) = .ok st ∧
      ((st.iterAll o tg j).1).sizeHint = some (ss.length - min j ss.length) := by
  obtain ⟨st, hopen, hinv, hn⟩ := open_written o tg ss hok
  obtain ⟨st', he, hinv', hn'⟩ := hinv.iterAll j
  refine ⟨st, hopen, ?_⟩
  rw [he, hinv'.sizeHint, hn', hn, List.length_map, Nat.zero_add, Nat.zero_max]

end Shp.C04
