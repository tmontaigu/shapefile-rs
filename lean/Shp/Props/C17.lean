/-
C17 — memory requested while reading is proportional to the input size.
What a theorem can carry: (a) the only capacities requested from counts NOT yet backed by data are
capped by the constant the translator reads from the source; (b) every element the readers
materialise is backed by input bytes actually consumed (16 per vertex, 4 per part offset / patch
kind, 8 per index entry), so returned values are at most a small multiple of the bytes read.
The allocator, `Vec`'s growth policy and transient buffers are runtime behaviour: measured by the
counting allocator in the harness on every run (partial by nature).
-/
import Shp.Props.C07
namespace Shp.C17
open Shp Dec

/-- `vec_for_count_from_file`: elements reserved ahead of the data for a count read from the file -/
def prealloc (count : Int) : Nat := min count.toNat Const.maxPrealloc

/-- (a) never more than the cap, whatever the file says -/
theorem prealloc_capped (count : Int) : prealloc count ≤ 1024 := by
  unfold prealloc
  have : Const.maxPrealloc = 1024 := rfl
  omega

/-- (a) a negative count is refused before any element exists -/
theorem negative_count_refused {α : Type} (d : Dec α) (n : Int) (hn : n < 0) (bs : Bytes) :
    readCounted n d bs = .err .io := by
  unfold readCounted; simp [hn, Dec.fail]

theorem readCounted_backed {α : Type} {d : Dec α} (c : Nat) (hd : Consumes d c) (n : Int) (bs : Bytes) (l : List α)
    (rest : Bytes) (h : readCounted n d bs = .ok l rest) :
    l.length = n.toNat ∧ rest.length + c * l.length ≤ bs.length := by
  unfold readCounted at h
  split at h
  · cases h
  · exact hd.repeatN_backed _ bs l rest h

/-- (b) vertices: a vector of `n` points exists only after `16 n` bytes were read -/
theorem points_backed (n : Int) (bs : Bytes) (l : List Pt) (rest : Bytes) (h : readXYVec n bs = .ok l rest) :
    rest.length + 16 * l.length ≤ bs.length :=
  (readCounted_backed 16 readXYPt_seq.consumes n bs l rest h).2

/-- (b) part offsets: the parts array of `n` entries exists only after `4 n` bytes were read (40: the
box and the two counts before it) -/
theorem parts_backed (bs : Bytes) (h : MultiPartHeader) (rest : Bytes) (he : readMultiPartHeader bs = .ok h rest) :
    h.partsArray.length = h.numParts.toNat ∧ rest.length + 4 * h.partsArray.length + 40 ≤ bs.length := by
  obtain ⟨b, r1, h1, he⟩ := bind_ok he
  obtain ⟨np, r2, h2, he⟩ := bind_ok he
  obtain ⟨npt, r3, h3, he⟩ := bind_ok he
  obtain ⟨pa, r4, h4, he⟩ := bind_ok he
  cases he
  have c1 := readBBoxXY_seq.consumes bs b r1 h1
  have c2 := Seq.i32LE.consumes r1 np r2 h2
  have c3 := Seq.i32LE.consumes r2 npt r3 h3
  have c4 := readCounted_backed 4 Seq.i32LE.consumes np r3 pa _ h4
  exact ⟨c4.1, by simp only; omega⟩

/-- (b) the index: at most one entry per 8 bytes of `.shx` actually read -/
theorem index_backed (shx : Bytes) (idx : List IndexEntry) (rest : Bytes) (h : readIndexFile shx = .ok idx rest) :
    8 * idx.length ≤ shx.length := readIndexFile_backed h

/-! (c) The places where the READING code sizes a collection ahead of its contents (`Shp.allocSites`,
re-extracted from `/repo/src` on every run) are, on the pinned tree:
  1. `vec_for_count_from_file`: `with_capacity(min{count, MAX_PREALLOCATED_ELEMENTS})` — `prealloc`, capped;
  2. `MultiPartShapeReader::new`: `with_capacity(parts_array.len())` — the parts array has been read;
  3.–4. `Multipatch::read_shape_content`: `vec![_; num_parts]`, `with_capacity(num_parts)` — after the
        parts array of `num_parts` entries has been read (`parts_backed`).
A change of that list is not a proof obligation (binding the same expression to a local changes it):
the verdict then comes from the harness's allocation measurements. -/

/-- non-vacuity: 2^28 declared points on a 40-byte record: refused, nothing built -/
example : readXYVec 268435456 [] = .err .io := by
  unfold readXYVec readCounted
  rw [if_neg (by decide)]
  rfl

end Shp.C17
