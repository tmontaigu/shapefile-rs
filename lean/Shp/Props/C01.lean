/-
C01 — write-then-read round trip preserves every shape exactly.
Record level: `Shp.readContentOf_encodeContent`, `Shp.readOneShape_encRecord` (Lemmas/Frame);
here the file level, and what the read-side normalisation `readBack` changes.
-/
import Shp.Props.C04
namespace Shp.C01
open Shp

/-- MAIN (file level): any sequence of shapes of one non-null type that is written with the shape
writer and read back — generically or as its concrete type, sequentially with or without the index,
or by random access — yields the same number of shapes in the same order, each normalised by
`readBack`.  `FileOK` asks this (`nonnull` follows from `homog`) and the format's own `i32` limits. -/
theorem roundtrip (o : Orient) (tg : Target) (ss : List Shape) (hok : FileOK tg ss) :
    writeFiles true ss = (shpFile ss, shxFile ss) ∧
    (writeFiles false ss).1 = shpFile ss ∧
    readAll o tg (shpFile ss) (some (shxFile ss)) = .ok (ss.map (Shape.readBack o)) ∧
    readAll o tg (shpFile ss) none = .ok (ss.map (Shape.readBack o)) ∧
    ∃ st, RState.open (shpFile ss) (some (shxFile ss)) = .ok st ∧
      (∀ i (hi : i < ss.length), (st.readNth o tg i).2 = .shape (ss[i].readBack o)) ∧
      (∀ i, ss.length ≤ i → (st.readNth o tg i).2 = .none) := by
  have hw := C04.written_files ss hok.homog hok.nonnull
  have h2 := C04.read_without_index o tg ss hok []
  rw [List.append_nil] at h2
  obtain ⟨st, hopen, _, hnth, hnone⟩ := C04.random_access o tg ss hok
  exact ⟨hw.1, hw.2, C04.read_with_index o tg ss hok, h2, st, hopen, hnth, hnone⟩

theorem noData_notNaN : F64.noData.isNaN = false := by decide

/-- measures: bit-identical, except that a NaN or a value at/below the no-data threshold is
reported as exactly NO_DATA -/
theorem maxNoData_spec (v : F64) : v.maxNoData = if v.isNaN || v.le F64.noData then F64.noData else v := by
  unfold F64.maxNoData
  cases hn : v.isNaN
  · -- on real values `NO_DATA < v` is the negation of `v <= NO_DATA`
    simp only [F64.lt, F64.le, hn, noData_notNaN, Bool.false_or, Bool.not_false, Bool.true_and, decide_eq_true_eq,
      Bool.false_eq_true, if_false, ← Int.not_lt, ite_not]
  · rfl

/-- X, Y and (for Z types) Z of every vertex come back bit-identical -/
theorem readBack_xyz (d : Dim) (p : Pt) :
    (p.readBack d).x = p.x ∧ (p.readBack d).y = p.y ∧ (d.hasZ = true → (p.readBack d).z = p.z) ∧
    (d.hasM = true → (p.readBack d).m = p.m.maxNoData) := by
  refine ⟨rfl, rfl, ?_, ?_⟩ <;> intro h <;> simp [Pt.readBack, h]

/-- the default a reader leaves in a coordinate the dimension lacks is what a canonical value holds there -/
theorem ite_canon {c : Bool} {a dflt : F64} (h : c = false → a = dflt) : (if c then a else dflt) = a := by
  cases c
  · exact (h rfl).symm
  · rfl

/-- single points are not normalised at all -/
theorem readRaw_point_id (d : Dim) (p : Pt) (hc : p.Canon d) : p.readRaw d = p := by
  cases p
  simp only [Pt.readRaw, ite_canon hc.1, ite_canon hc.2]

/-- the per-shape box is returned bit-identically (for boxes of typed values) -/
theorem readRaw_box_id (d : Dim) (b : BBox) (hc : b.Canon d) : b.readRaw d = b := by
  cases b
  simp only [BBox.readRaw, readRaw_point_id d _ hc.1, readRaw_point_id d _ hc.2]

/-- a vertex whose measure is real data (and whose absent coordinates are the defaults) comes
back bit-identical -/
theorem readBack_id (d : Dim) (p : Pt) (hc : p.Canon d) (hm : d.hasM = true → (p.m.isNaN || p.m.le F64.noData) = false) :
    p.readBack d = p := by
  -- a real measure passes `max(m, NO_DATA)` unchanged, so the vertex is read as a single point is
  have : p.readBack d = p.readRaw d := by
    simp only [Pt.readBack, Pt.readRaw]
    cases h : d.hasM
    · rfl
    · simp only [maxNoData_spec, hm h, Bool.false_eq_true, if_false]
  rw [this, readRaw_point_id d p hc]

theorem readBack_structure (o : Orient) (s : Shape) :
    (s.readBack o).variant = s.variant ∧
    (s.readBack o).parts.map List.length = s.parts.map List.length := by
  constructor
  · cases s with
    | null | multipatch => rfl
    | point d | multipoint d | polyline d | polygon d => cases d <;> rfl
  · cases s <;> simp [Shape.readBack, Shape.parts, Function.comp]

theorem readBack_patch_kinds (o : Orient) (b : BBox) (patches : List (PatchKind × List Pt)) :
    ∃ b' ps', (Shape.multipatch b patches).readBack o = .multipatch b' ps' ∧ ps'.map (·.1) = patches.map (·.1) := by
  refine ⟨_, _, rfl, ?_⟩
  simp [Function.comp]

/-- ring roles after reading are those recomputed from the vertex order -/
theorem readBack_roles (o : Orient) (d : Dim) (b : BBox) (rings : List (Role × List Pt)) :
    ∃ b' rs', (Shape.polygon d b rings).readBack o = .polygon d b' rs' ∧ ∀ r ∈ rs', r.1 = roleOf o r.2 := by
  refine ⟨_, _, rfl, fun r hr => ?_⟩
  obtain ⟨r0, -, rfl⟩ := List.mem_map.mp hr
  rfl

/-- non-vacuity: a concrete two-record PolylineM file meets the hypothesis -/
example : FileOK .generic [Shape.polyline .xym BBox.default [[Pt.default, Pt.default]],
    Shape.polyline .xym BBox.default [[Pt.default, Pt.default], [Pt.default, Pt.default]]] := by
  refine ⟨Homog.pair (by decide) rfl, ?_, ?_, ?_, ?_⟩
  · intro s hs; simp at hs; rcases hs with rfl | rfl <;> decide
  · intro s hs; simp at hs; rcases hs with rfl | rfl <;> simp
  · intro s hs; trivial
  · decide

end Shp.C01
