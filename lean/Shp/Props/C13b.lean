/-
C13 on the files of C03: every well-formed whitepaper file (independent encoder: optional M blocks
absent, null records, any stored boxes and record numbers, trailing bytes), cut at ANY length from
100 bytes on and read sequentially.
-/
import Shp.Props.C13
import Shp.Props.C03
namespace Shp.C13
open Shp Spec

theorem truncated_spec_file (o : Orient) (f : File) (h : C03.FileWF f) (t : Nat) (h100 : 100 ≤ t)
    (ht : t ≤ (encodeFile f).length) :
    ∃ st k, RState.open ((encodeFile f).take t) none = .ok st ∧ k ≤ (C03.expected o f).length ∧
      (st.iterAll o .generic st.fuel).2 =
        ((C03.expected o f).take k).map ROut.shape ++
          (if k < (C03.expected o f).length then [ROut.err .io] else []) := by
  obtain ⟨st, hopen, hinv⟩ := C03.open_spec_file o f h
  obtain ⟨hd, rest, hh, rfl⟩ := RState.open_none_ok hopen
  exact truncated_sequential_any_file o .generic _ hd rest _ hh hinv.flen hinv.recs t h100 ht

end Shp.C13
