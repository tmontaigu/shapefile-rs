/-
C07 — reading arbitrary bytes never panics, overflows or runs forever.
The decoders' one panic site is `subTypeCode`, the `i32` subtraction the code leaves unguarded (every
other site is a checked operation returning an error); the guards of `read_one_shape_as` exclude it
(`readOneShape_noPanic`).  Statements are over ALL byte strings and ALL operation sequences.
-/
import Shp.Lemmas.ReaderStep
import Shp.Lemmas.Codec
namespace Shp.C07
open Shp Dec

def ROut.isPanic : ROut → Bool
  | .panic _ => true
  | _ => false

def RRes.hasPanic : RRes → Bool
  | .items l => l.any ROut.isPanic
  | .one r => ROut.isPanic r
  | .hintRes _ => false

theorem open_noPanic (shp : Bytes) (shx : Option Bytes) :
    ∀ s, RState.open shp shx ≠ .error (.panic s) := by
  intro s h
  obtain ⟨er, he⟩ := RState.open_error h
  cases he

theorem readHere_noPanic (o : Orient) (tg : Target) (st : RState) : ROut.isPanic (st.readHere o tg).2 = false := by
  rcases RState.readHere_cases o tg st with ⟨_, _, _, _, h⟩ | ⟨_, h⟩
  · rw [h]; rfl
  · rw [h]; rfl

theorem iterNext_noPanic (o : Orient) (tg : Target) (st : RState) : ROut.isPanic (st.iterNext o tg).2 = false := by
  rcases RState.iterNext_cases o tg st with h | ⟨_, _, _, h | ⟨_, _, h⟩⟩ | ⟨_, _, h⟩
  · rw [h]; rfl
  · rw [h]; rfl
  · rw [h]; exact readHere_noPanic o tg _
  · rw [h]; exact readHere_noPanic o tg _

theorem seek_noPanic (st : RState) (k : Nat) : ROut.isPanic (st.seek k).2 = false := by
  rcases Option.eq_none_or_eq_some st.index with hi | ⟨idx, hi⟩
  · rw [RState.seek_noIndex hi]; rfl
  · by_cases hk : k < idx.length
    · rw [RState.seek_entry hi hk]
      cases wordsToBytes idx[k].offset <;> rfl
    · rw [RState.seek_end hi (Nat.le_of_not_lt hk)]; rfl

theorem readNth_noPanic (o : Orient) (tg : Target) (st : RState) (i : Nat) : ROut.isPanic (st.readNth o tg i).2 = false := by
  rcases Option.eq_none_or_eq_some st.index with hi | ⟨idx, hi⟩
  · rw [RState.readNth_noIndex hi]; rfl
  · by_cases hk : i < idx.length
    · rw [RState.readNth_entry hi hk]
      cases wordsToBytes idx[i].offset with
      | none => rfl
      | some start =>
        dsimp only
        rcases (readOneShape_noPanic o tg).ok_or_err (st.data.drop start.toNat) with ⟨⟨w, s⟩, r, hr⟩ | ⟨e, hr⟩
        · rw [hr]; rfl
        · rw [hr]; rfl
    · rw [RState.readNth_end hi (Nat.le_of_not_lt hk)]; rfl

theorem iterAll_noPanic (o : Orient) (tg : Target) (fuel : Nat) (st : RState) :
    (st.iterAll o tg fuel).2.any ROut.isPanic = false := by
  induction fuel generalizing st with
  | zero => rfl
  | succ fuel ih =>
    rw [RState.iterAll_succ]
    split
    · rfl
    · rw [List.any_cons, iterNext_noPanic, ih]; rfl

/-- MAIN (no panic): whatever the bytes and whatever the sequence of operations — iterate, read by
index, seek, count — every call returns a value or an error -/
theorem run_noPanic (o : Orient) (tg : Target) (ops : List ROp) (st : RState) :
    (st.run o tg ops).2.any RRes.hasPanic = false := by
  induction ops generalizing st with
  | nil => rfl
  | cons op ops ih =>
    simp only [RState.run, List.any_cons, ih, Bool.or_false]
    cases op with
    | iter j => exact iterAll_noPanic o tg j st
    | nth i => exact readNth_noPanic o tg st i
    | seek k => exact seek_noPanic st k
    | count =>
      simp only [RState.step, RRes.hasPanic, RState.shapeCount]
      cases st.index <;> rfl
    | hint => rfl

/-- what is left for an iterator to yield, at most -/
def budget (st : RState) : Nat :=
  match st.index with
  | some idx => idx.length - st.nextShape
  | none => match st.currentPos with
    | none => 0
    | some _ => (st.data.length - st.srcPos) / 12 + 1

theorem readHere_budget (o : Orient) (tg : Target) (st : RState) (hi : st.index = none) (hc : st.currentPos ≠ none) :
    budget (st.readHere o tg).1 < budget st := by
  obtain ⟨p, hp⟩ := Option.ne_none_iff_exists'.1 hc
  rcases RState.readHere_cases o tg st with ⟨w, s, rest, hr, h⟩ | ⟨e, h⟩
  · -- a record read takes at least 12 bytes off the source
    have hcons := readOneShape_c12 o tg _ _ _ hr
    rw [List.length_drop] at hcons
    rw [h]
    simp only [budget, hi, hp, Option.map_some]
    omega
  · rw [h]
    simp only [budget, hi, hp]
    omega

theorem iterNext_budget (o : Orient) (tg : Target) (st : RState) (h : (st.iterNext o tg).2 ≠ .none) :
    budget (st.iterNext o tg).1 < budget st := by
  rcases RState.iterNext_cases o tg st with h0 | ⟨idx, hi, hk, h1 | ⟨p, c, h1⟩⟩ | ⟨hi, hc, h1⟩
  · exact absurd (congrArg Prod.snd h0) h
  · rw [h1]
    simp only [budget, hi]
    omega
  · obtain ⟨h2, h3, _⟩ := RState.readHere_frame o tg { st with srcPos := p, currentPos := c, nextShape := st.nextShape + 1 }
    rw [h1, budget, h2, h3]
    simp only [budget, hi]
    omega
  · rw [h1]
    exact readHere_budget o tg st hi hc

/-- MAIN (termination): however much fuel the caller has, an iterator yields at most `budget`
items — at most one per index entry, or one per 12 source bytes plus one error -/
theorem iterAll_bounded (o : Orient) (tg : Target) (fuel : Nat) (st : RState) :
    (st.iterAll o tg fuel).2.length ≤ budget st := by
  induction fuel generalizing st with
  | zero => exact Nat.zero_le _
  | succ fuel ih =>
    rw [RState.iterAll_succ]
    split
    · exact Nat.zero_le _
    · next hn =>
      have := iterNext_budget o tg st hn
      have := ih (st.iterNext o tg).1
      rw [List.length_cons]
      omega

theorem budget_le_input (st : RState) :
    budget st ≤ st.data.length / 12 + (match st.index with | some idx => idx.length | none => 0) + 1 := by
  have : (st.data.length - st.srcPos) / 12 ≤ st.data.length / 12 := Nat.div_le_div_right (Nat.sub_le _ _)
  unfold budget
  cases st.index with
  | some idx => simp only; omega
  | none =>
    simp only
    split <;> omega

/-- the index is no longer than its file: one entry per 8 bytes read -/
theorem index_le_shx (shx : Bytes) (idx : List IndexEntry) (rest : Bytes) (h : readIndexFile shx = .ok idx rest) :
    8 * idx.length ≤ shx.length := readIndexFile_backed h

/-- non-vacuity: a record header declaring 2^30 words is refused with an error, not a panic (the
doubling would overflow `i32`) -/
example (o : Orient) : ∃ e, readOneShape o .generic (encI32BE 1 ++ encI32BE 1073741824 ++ [0, 0, 0, 0]) = .err e := by
  refine ⟨.recSize, ?_⟩
  unfold readOneShape
  rw [List.append_assoc, bind_of_ok (i32BE_enc 1 (by decide) _), bind_of_ok (i32BE_enc _ (by decide) _)]
  rfl

end Shp.C07
