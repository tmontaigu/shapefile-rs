/-
C15, complete Reader — the attribute rows follow the same positions as the shapes, so pairs stay
aligned whatever was called before.
-/
import Shp.Props.C15
import Shp.Model.PairsRead
namespace Shp.C15
open Shp

/-- the pairs an iteration starting at position `k` is expected to yield: shape `i` with row `i` -/
def expectPairs (shapes : List Shape) (k j : Nat) : List POut :=
  (((shapes.drop k).take j).zipIdx k).map fun p => POut.pair p.1 p.2

/-- shapes and rows are at the same position, or both are past the end -/
def Aligned (n : Nat) (pr : PReader) : Prop :=
  pr.rowPos = pr.rs.nextShape ∨ (n ≤ pr.rs.nextShape ∧ n ≤ pr.rowPos)

structure PInv (o : Orient) (tg : Target) (shapes : List Shape) (pr : PReader) : Prop where
  rinv : RInv o tg shapes pr.rs
  rows : pr.rows = shapes.length
  aligned : Aligned shapes.length pr

theorem nextPair_aligned {o : Orient} {tg : Target} {shapes : List Shape} {pr : PReader} (h : PInv o tg shapes pr)
    (hk : pr.rs.nextShape < shapes.length) (cnt : Nat) (hcnt : cnt < shapes.length) :
    ∃ st1, pr.nextPair o tg cnt =
        ({ pr with rs := st1, rowPos := pr.rowPos + 1 }, some (.pair shapes[pr.rs.nextShape] pr.rs.nextShape), cnt + 1) ∧
      PInv o tg shapes { pr with rs := st1, rowPos := pr.rowPos + 1 } ∧ st1.nextShape = pr.rs.nextShape + 1 := by
  obtain ⟨st1, hnext, hinv1, hn1⟩ := h.rinv.iterNext hk
  have hrow : pr.rowPos = pr.rs.nextShape := h.aligned.resolve_right fun ha => by omega
  refine ⟨st1, ?_, ⟨hinv1, h.rows, Or.inl (by simp only [hn1, hrow])⟩, hn1⟩
  unfold PReader.nextPair
  rw [hnext]
  simp only [h.rows, hrow, hcnt, hk, and_self, if_true]

theorem iterPairs_aligned (o : Orient) (tg : Target) (shapes : List Shape) (j cnt : Nat) (pr : PReader)
    (h : PInv o tg shapes pr) (hcnt : cnt + (shapes.length - pr.rs.nextShape) ≤ shapes.length) :
    (pr.iterPairs o tg j cnt).2 = expectPairs shapes pr.rs.nextShape j ∧ PInv o tg shapes (pr.iterPairs o tg j cnt).1 ∧
    (pr.iterPairs o tg j cnt).1.rs.nextShape = min (pr.rs.nextShape + j) (max pr.rs.nextShape shapes.length) := by
  induction j generalizing cnt pr with
  | zero => exact ⟨rfl, h, (Nat.min_eq_left (Nat.le_max_left _ _)).symm⟩
  | succ j ih =>
    by_cases hk : pr.rs.nextShape < shapes.length
    · obtain ⟨st1, hnp, hinv', hn1⟩ := nextPair_aligned h hk cnt (by omega)
      obtain ⟨ho, hi, hnn⟩ := ih (cnt + 1) _ hinv' (by simp only [hn1]; omega)
      rw [PReader.iterPairs, hnp]
      refine ⟨?_, hi, by rw [hnn]; simp only [hn1]; exact cursor_succ j hk⟩
      simp only [ho, hn1, expectPairs]
      rw [List.drop_eq_getElem_cons hk, List.take_succ_cons, List.zipIdx_cons, List.map_cons]
    · have hk' : shapes.length ≤ pr.rs.nextShape := by omega
      have hnp : pr.nextPair o tg cnt = (pr, none, cnt) := by
        unfold PReader.nextPair
        rw [h.rinv.iterNext_end hk']
      rw [PReader.iterPairs, hnp]
      exact ⟨by simp [expectPairs, List.drop_eq_nil_of_le hk'], h, (cursor_end _ hk').symm⟩

theorem seek_aligned (o : Orient) (tg : Target) (shapes : List Shape) (pr : PReader) (h : PInv o tg shapes pr) (k : Nat) :
    (pr.seek k).2 = .unit ∧ PInv o tg shapes (pr.seek k).1 ∧ (pr.seek k).1.rs.nextShape = min k shapes.length := by
  obtain ⟨st', hs, hinv, hn⟩ := h.rinv.seek k
  unfold PReader.seek
  rw [hs]
  refine ⟨rfl, ⟨hinv, h.rows, ?_⟩, hn⟩
  unfold Aligned
  simp only [hn]
  by_cases hk : k ≤ shapes.length
  · left; omega
  · right; omega

/-- the abstract complete reader: a single cursor -/
def specRun (shapes : List Shape) : Nat → List PROp → List PRRes
  | _, [] => []
  | pos, .iter j :: ops =>
    .items (expectPairs shapes pos j) :: specRun shapes (min (pos + j) (max pos shapes.length)) ops
  | _, .seek k :: ops => .one .unit :: specRun shapes (min k shapes.length) ops

/-- MAIN (complete Reader): on a reader whose index addresses its records and whose table has one
row per record, ANY sequence of `seek(k)` and partial or complete iterations behaves like a single
cursor over aligned pairs: every iteration yields, from the cursor on, shape `i` paired with row
`i`, in order; `seek(k)` succeeds for every `k` and puts the cursor at `min k n` -/
theorem pairs_stay_aligned (o : Orient) (tg : Target) (shapes : List Shape) (ops : List PROp) (pr : PReader)
    (h : PInv o tg shapes pr) :
    (pr.run o tg ops).2 = specRun shapes pr.rs.nextShape ops ∧ PInv o tg shapes (pr.run o tg ops).1 := by
  induction ops generalizing pr with
  | nil => exact ⟨rfl, h⟩
  | cons op ops ih =>
    cases op with
    | iter j =>
      obtain ⟨ho, hi, hn⟩ := iterPairs_aligned o tg shapes j 0 pr h (by omega)
      obtain ⟨hr, h2⟩ := ih (pr.iterPairs o tg j 0).1 hi
      exact ⟨by simp only [PReader.run, PReader.step, specRun, ho, hr, hn], h2⟩
    | seek k =>
      obtain ⟨ho, hi, hn⟩ := seek_aligned o tg shapes pr h k
      obtain ⟨hr, h2⟩ := ih (pr.seek k).1 hi
      exact ⟨by simp only [PReader.run, PReader.step, specRun, ho, hr, hn], h2⟩

/-- a written pair opened at row 0 of a table of as many rows as shapes meets the invariant -/
theorem open_pairs (o : Orient) (tg : Target) (ss : List Shape) (hok : FileOK tg ss) :
    ∃ st, RState.open (shpFile ss) (some (shxFile ss)) = .ok st ∧
      PInv o tg (ss.map (Shape.readBack o)) ⟨st, 0, ss.length⟩ := by
  obtain ⟨st, hopen, hinv, hn⟩ := open_written o tg ss hok
  exact ⟨st, hopen, hinv, by simp, Or.inl (by simp [hn])⟩

/-- non-vacuity: a pair expectation that is not empty -/
example : expectPairs [Shape.null, Shape.null, Shape.null] 1 5 = [.pair .null 1, .pair .null 2] := by decide

end Shp.C15
