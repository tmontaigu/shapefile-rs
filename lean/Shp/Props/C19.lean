/-
C19 — shape type codes form the ESRI table, for every integer (hence every 32-bit value).
All statements are about the tables GENERATED from src/lib.rs on this run.
-/
import Shp.Lemmas.Codec
import Shp.Lemmas.Decoders
namespace Shp.C19
open Shp

/-- the ESRI whitepaper's table, written out: code, name, has Z, has M, multi-part -/
def esri : List (Int × String × Bool × Bool × Bool) :=
  [ (0, "NullShape", false, false, true),
    (1, "Point", false, false, false), (3, "Polyline", false, false, true),
    (5, "Polygon", false, false, true), (8, "Multipoint", false, false, false),
    (11, "PointZ", true, true, false), (13, "PolylineZ", true, true, true),
    (15, "PolygonZ", true, true, true), (18, "MultipointZ", true, true, false),
    (21, "PointM", false, true, false), (23, "PolylineM", false, true, true),
    (25, "PolygonM", false, true, true), (28, "MultipointM", false, true, false),
    (31, "Multipatch", true, false, true) ]

def esriCodes : List Int := esri.map (·.1)

theorem mem_all (t : ShapeType) : t ∈ ShapeType.all := by cases t <;> decide

/-- THE table fact: the generated tables, listed over the 14 types, are the ESRI table row by row -/
theorem esri_eq : esri = ShapeType.all.map fun t => (t.code, t.name, t.hasZ, t.hasM, t.isMultipart) := rfl

theorem lookupCode_mem {α : Type} (tb : List (Int × α)) (c : Int) (a : α)
    (h : lookupCode tb c = some a) : (c, a) ∈ tb := by
  induction tb with
  | nil => simp [lookupCode] at h
  | cons e rest ih =>
    obtain ⟨k, b⟩ := e
    unfold lookupCode at h
    by_cases hk : c = k
    · rw [if_pos hk] at h
      cases h; subst hk; exact List.mem_cons_self
    · rw [if_neg hk] at h
      exact List.mem_cons_of_mem _ (ih h)

theorem ofCode_code (t : ShapeType) : ShapeType.ofCode t.code = some t := t.ofCode_code

/-- every arm of `ShapeType::from` maps a type's own discriminant to it -/
theorem codeTable_sound : ∀ e ∈ ShapeType.codeTable, e.2.code = e.1 := by decide

theorem code_ofCode (c : Int) (t : ShapeType) (h : ShapeType.ofCode c = some t) : t.code = c :=
  codeTable_sound (c, t) (lookupCode_mem _ c t h)

theorem ofCode_eq_some_iff (c : Int) (t : ShapeType) : ShapeType.ofCode c = some t ↔ c = t.code :=
  ⟨fun h => (code_ofCode c t h).symm, fun h => h ▸ ofCode_code t⟩

theorem code_injective (a b : ShapeType) (h : a.code = b.code) : a = b := by
  have := ofCode_code a
  rw [h, ofCode_code b] at this
  exact (Option.some.inj this).symm

theorem row_is_esri (t : ShapeType) :
    (t.code, t.name, t.hasZ, t.hasM, t.isMultipart) ∈ esri :=
  esri_eq ▸ List.mem_map_of_mem (mem_all t)

theorem code_mem_esri (t : ShapeType) : t.code ∈ esriCodes :=
  List.mem_map.mpr ⟨_, row_is_esri t, rfl⟩

theorem esri_mem_code (c : Int) (h : c ∈ esriCodes) : ∃ t : ShapeType, t.code = c := by
  rw [esriCodes, esri_eq, List.map_map] at h
  obtain ⟨t, -, ht⟩ := List.mem_map.mp h
  exact ⟨t, ht⟩

theorem ofCode_none_of_not_esri (c : Int) (h : c ∉ esriCodes) : ShapeType.ofCode c = none := by
  cases hc : ShapeType.ofCode c with
  | none => rfl
  | some t =>
    have := code_ofCode c t hc
    exact absurd (this ▸ code_mem_esri t) h

theorem ofCode_some_of_esri (c : Int) (h : c ∈ esriCodes) : (ShapeType.ofCode c).isSome := by
  obtain ⟨t, rfl⟩ := esri_mem_code c h
  simp [ofCode_code]

theorem esriCodes_nodup : esriCodes.Nodup := by decide

/-- an invalid code read from a file surfaces as `InvalidShapeType(code)` carrying that code -/
theorem readShapeType_bad (c : Int) (hr : InI32 c) (h : c ∉ esriCodes) (rest : Bytes) :
    readShapeType (encI32LE c ++ rest) = .err (.shapeType c) := by
  rw [readShapeType, Dec.bind_of_ok (i32LE_enc c hr rest), ofCode_none_of_not_esri c h]
  rfl

theorem readShapeType_good (t : ShapeType) (rest : Bytes) :
    readShapeType (encI32LE t.code ++ rest) = .ok t rest := readShapeType_enc t rest

/-- non-vacuity: 26 and -1 are rejected, 25 is PolygonM -/
example : ShapeType.ofCode 26 = none ∧ ShapeType.ofCode (-1) = none ∧ ShapeType.ofCode 25 = some .polygonM := by
  decide

/-- a RECORD with an invalid code, read generically or as any concrete type: the code is decoded
before the requested type is compared, so it is never reported as a type mismatch -/
theorem readTarget_bad_code (o : Orient) (tg : Target) (recSize : Int) (c : Int) (hr : InI32 c)
    (h : c ∉ esriCodes) (rest : Bytes) :
    readTarget o tg recSize (encI32LE c ++ rest) = .err (.shapeType c) := by
  have hb := readShapeType_bad c hr h rest
  cases tg with
  | generic => rw [readTarget, readShape, Dec.bind_of_err hb]
  | typed t => rw [readTarget, readShapeAs, Dec.bind_of_err hb]

/-- `read_one_shape_as` on the whole record; `hpos`, `hsmall`: the declared length passes the size checks -/
theorem readOneShape_bad_code (o : Orient) (tg : Target) (num words : Int) (hn : InI32 num) (hw : InI32 words)
    (hpos : 0 ≤ words) (hsmall : 2 * words < 2147483648) (c : Int) (hr : InI32 c) (h : c ∉ esriCodes) (rest : Bytes) :
    readOneShape o tg (encI32BE num ++ encI32BE words ++ encI32LE c ++ rest) = .err (.shapeType c) := by
  rw [readOneShape, List.append_assoc, List.append_assoc, Dec.bind_of_ok (i32BE_enc num hn _),
    Dec.bind_of_ok (i32BE_enc words hw _), wordsToBytes_nonneg hpos]
  dsimp only
  rw [if_neg (by omega), Dec.bind_of_err (readTarget_bad_code o tg (2 * words) c hr h rest)]

end Shp.C19
