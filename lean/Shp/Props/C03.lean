/-
C03 — the reader decodes every spec-conformant .shp, including foreign layouts.
The encoder is the independent whitepaper encoder `Shp.Spec.encodeFile`; `expected` is what a
conforming reader must return.
-/
import Shp.Lemmas.SpecRead
import Shp.Lemmas.ReadAll
namespace Shp.C03
open Shp Spec

/-- `small`: the total size fits the header's `i32` length field (16-bit words) -/
structure FileWF (f : File) : Prop where
  info : (typeInfo f.typeCode).isSome
  box : f.box.length = 8
  recs : ∀ r ∈ f.records, r.WF f.typeCode
  small : 100 + (f.records.flatMap Spec.encRecord).length < 4294967296

def expected (o : Orient) (f : File) : List Shape := f.records.map (Rec.expected o)

theorem seq_spec_records (o : Orient) (t : Nat) (recs : List Rec) (pre extra : Bytes)
    (hwf : ∀ r ∈ recs, r.WF t) :
    SeqRecords o .generic (pre ++ (recs.flatMap Spec.encRecord ++ extra)) (pre.length + (recs.flatMap Spec.encRecord).length)
      pre.length (recs.map (Rec.expected o)) := by
  induction recs generalizing pre with
  | nil => simp [SeqRecords]
  | cons r rs ih =>
    have hr := hwf r List.mem_cons_self
    have he : (Spec.encRecord r).length = 8 + 2 * ((encContent r).length / 2) := by
      have := hr.even; rw [Spec.encRecord_length]; omega
    simp only [List.map_cons, List.flatMap_cons, List.length_append, List.append_assoc]
    exact SeqRecords.cons (spec_read_record o t r hr _) he
      (ih (pre ++ Spec.encRecord r) fun x hx => hwf x (List.mem_cons_of_mem _ hx))

def headerOf (f : File) : Header :=
  { fileLength := (((100 + (f.records.flatMap Spec.encRecord).length) / 2 : Nat) : Int),
    bbox := ⟨⟨F64.ofNat (f.box.getD 0 0), F64.ofNat (f.box.getD 1 0), F64.ofNat (f.box.getD 4 0), F64.ofNat (f.box.getD 6 0)⟩,
             ⟨F64.ofNat (f.box.getD 2 0), F64.ofNat (f.box.getD 3 0), F64.ofNat (f.box.getD 5 0), F64.ofNat (f.box.getD 7 0)⟩⟩,
    shapeType := typeOfCode f.typeCode, version := 1000 }

theorem encHeader_eq (f : File) (h : FileWF f) :
    encHeader f.typeCode ((100 + (f.records.flatMap Spec.encRecord).length) / 2) f.box = (headerOf f).enc := by
  unfold headerOf
  match hbx : f.box, h.box with
  | [a, b, c, d, e, g, i, j], _ =>
    rw [encHeader_enc _ (typeOfCode f.typeCode) (typeOfCode_code f.typeCode h.info)]
    rfl

/-- a well-formed whitepaper file opens, with the reader placed before records that read back as
`expected` -/
theorem open_spec_file (o : Orient) (f : File) (h : FileWF f) :
    ∃ st, RState.open (encodeFile f) none = .ok st ∧ SInv o .generic (expected o f) st := by
  have hev := Spec.body_even f.records fun r hr => (h.recs r hr).even
  have hsm := h.small
  obtain ⟨st, hopen, hinv⟩ := open_seq o .generic (headerOf f) (f.records.flatMap Spec.encRecord) f.trailing (expected o f)
    (inI32_nat (by omega)) (show InI32 1000 by decide) (by simp only [headerOf]; omega)
    (seq_spec_records o f.typeCode f.records (headerOf f).enc f.trailing h.recs)
  refine ⟨st, ?_, hinv⟩
  unfold encodeFile
  simp only []
  rw [encHeader_eq f h, List.append_assoc]
  exact hopen

/-- MAIN: every spec-conformant byte stream — M/Z shapes whose optional M block is absent, PointZ
without M, null records, parts with zero or one vertex, zero parts, any ring orientation, arbitrary
stored boxes and record numbers, bytes after the declared length — is decoded to exactly the
geometry it encodes. -/
theorem reader_decodes_spec_files (o : Orient) (f : File) (h : FileWF f) :
    readAll o .generic (encodeFile f) none = .ok (expected o f) := by
  obtain ⟨st, hopen, hinv⟩ := open_spec_file o f h
  unfold readAll
  rw [hopen]
  exact hinv.collect

/-- an absent M block is reported as NO_DATA in every vertex and in the box's measure range -/
theorem expected_absent_m (d : Dim) (p : Pt) (b : BBox) :
    (p.readBackOpt d false).m = F64.noData ∧ (b.readRawOpt d false).min.m = F64.noData ∧
    (b.readRawOpt d false).max.m = F64.noData := by
  simp [Pt.readBackOpt, BBox.readRawOpt, Pt.readRawOpt]

/-- the stored box is returned as stored (X, Y; Z for Z types; M when the block is present) -/
theorem expected_box (d : Dim) (m : Bool) (b : BBox) :
    (b.readRawOpt d m).min.x = b.min.x ∧ (b.readRawOpt d m).min.y = b.min.y ∧
    (b.readRawOpt d m).max.x = b.max.x ∧ (b.readRawOpt d m).max.y = b.max.y ∧
    (d.hasZ = true → (b.readRawOpt d m).min.z = b.min.z ∧ (b.readRawOpt d m).max.z = b.max.z) ∧
    (d.hasM = true → m = true → (b.readRawOpt d m).min.m = b.min.m ∧ (b.readRawOpt d m).max.m = b.max.m) := by
  refine ⟨rfl, rfl, rfl, rfl, ?_, ?_⟩
  · intro h; simp [BBox.readRawOpt, Pt.readRawOpt, h]
  · intro h1 h2; simp [BBox.readRawOpt, Pt.readRawOpt, h1, h2]

/-- non-vacuity: a PolylineZ record WITHOUT its M block, with a one-vertex and an empty part -/
def sampleRec : Rec :=
  { number := -7, typeCode := 13, box := [1, 2, 3, 4], parts := [[⟨1, 2, 3, 0⟩], []], mPresent := false }
example : sampleRec.WF 13 := by
  refine ⟨by decide, Or.inl rfl, by decide, fun _ => rfl, trivial, by decide, by decide⟩

end Shp.C03
