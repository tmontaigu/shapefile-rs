/-
C20 — geo-types conversions preserve coordinates, order and ring nesting.
-/
import Shp.Model.Geo
namespace Shp.C20
open Shp

/-- a 2-D point as the crate's `Point` holds it -/
def IsXY (p : Pt) : Prop := p.z = F64.zero ∧ p.m = F64.noData

theorem toXY_of_isXY (p : Pt) (h : IsXY p) : toXY p = p := by
  obtain ⟨x, y, z, m⟩ := p
  obtain ⟨rfl, rfl⟩ := h
  rfl

theorem map_fix {α : Type} {f : α → α} {l : List α} (h : ∀ a ∈ l, f a = a) : l.map f = l :=
  (List.map_congr_left h).trans (List.map_id l)

theorem map_toXY_of_isXY (l : List Pt) (h : ∀ p ∈ l, IsXY p) : l.map toXY = l :=
  map_fix fun p hp => toXY_of_isXY p (h p hp)

theorem map_map_toXY (ls : List (List Pt)) (h : ∀ l ∈ ls, ∀ p ∈ l, IsXY p) : ls.map (List.map toXY) = ls :=
  map_fix fun l hl => map_toXY_of_isXY l (h l hl)

/-- of a point of any dimension only X and Y travel, bit-identically -/
theorem toXY_xy (p : Pt) : (toXY p).x = p.x ∧ (toXY p).y = p.y := ⟨rfl, rfl⟩

theorem roundtrip_point (o : Orient) (p : Pt) (h : IsXY p) :
    (match shapeToGeom (.point .xy p) with | .ok g => geomToShape o g | _ => .err) = .ok (.point .xy p) := by
  simp only [shapeToGeom, geomToShape, toXY_of_isXY p h]

theorem roundtrip_multipoint (o : Orient) (pts : List Pt) (s : Shape) (h : ∀ p ∈ pts, IsXY p)
    (hs : Shape.mkMultipoint .xy pts = some s) :
    (match shapeToGeom s with | .ok g => geomToShape o g | _ => .err) = .ok s := by
  obtain ⟨b, -, rfl⟩ := Option.map_eq_some_iff.mp hs
  simp only [shapeToGeom, geomToShape, map_toXY_of_isXY pts h, hs, optShape]

theorem roundtrip_polyline (o : Orient) (parts : List (List Pt)) (s : Shape) (h : ∀ ps ∈ parts, ∀ p ∈ ps, IsXY p)
    (hs : Shape.mkPolylineParts .xy parts = some s) :
    (match shapeToGeom s with | .ok g => geomToShape o g | _ => .err) = .ok s := by
  obtain ⟨b, -, rfl⟩ := Option.map_eq_some_iff.mp (Option.ite_none_left_eq_some.mp hs).2
  simp only [shapeToGeom, geomToShape, map_map_toXY parts h, hs, optShape]

def flatRings (p : GPoly) : List (Role × List Pt) := (Role.outer, p.ext) :: p.ints.map fun i => (Role.inner, i)

/-- the rings a list of geo polygons stands for: exterior as Outer, then its holes as Inner -/
def ungroup (ps : List GPoly) : List (Role × List Pt) :=
  ps.flatMap fun p => (Role.outer, p.ext) :: p.ints.map fun i => (Role.inner, i)

theorem ungroup_eq (ps : List GPoly) : ungroup ps = ps.flatMap flatRings := rfl

theorem ringsOfGPoly_eq (o : Orient) (p : GPoly) : ringsOfGPoly o p = (flatRings p).map (closeAndReorder o .xy) := rfl

theorem flatRings_new (e : List Pt) : flatRings (GPoly.new e []) = [(.outer, closeLS e)] := rfl

theorem flatRings_pushInterior (p : GPoly) (l : List Pt) :
    flatRings (p.pushInterior l) = flatRings p ++ [(.inner, closeLS l)] := by
  simp [flatRings, GPoly.pushInterior]

def AllClosed (rings : List (Role × List Pt)) : Prop := ∀ r ∈ rings, closeLS r.2 = r.2

/-- the loop invariant: what has been emitted plus the polygon still open stands for exactly the
rings consumed so far -/
theorem groupRings_spec (rings : List (Role × List Pt)) (last : GPoly) (acc : List GPoly) (hc : AllClosed rings) :
    ungroup (groupRings rings (some last) acc) = ungroup acc ++ ungroup [last] ++ rings := by
  induction rings generalizing last acc with
  | nil => simp [groupRings, ungroup_eq]
  | cons r rest ih =>
    obtain ⟨role, pts⟩ := r
    have hcl : closeLS pts = pts := hc (role, pts) List.mem_cons_self
    have ih := fun last acc => ih last acc fun x hx => hc x (List.mem_cons_of_mem _ hx)
    cases role
    · -- an outer ring emits `last` and opens a polygon of its own
      simp only [groupRings, ih]
      simp [ungroup_eq, flatRings_new, hcl]
    · -- an inner ring becomes the last hole of `last`
      simp only [groupRings, ih]
      simp [ungroup_eq, flatRings_pushInterior, hcl]

/-- MAIN (nesting): for an outer-first polygon whose rings are closed (a constructed polygon's are;
one read from a file has the rings the file has), each outer ring opens a geo polygon and the
following inner rings become its holes: the grouping stands for exactly the original ring list,
coordinates and order untouched -/
theorem polygon_nesting (first : List Pt) (rest : List (Role × List Pt)) (hc : AllClosed ((.outer, first) :: rest)) :
    ungroup (groupRings ((.outer, first) :: rest) none []) = (.outer, first) :: rest := by
  have hcl : closeLS first = first := hc (.outer, first) List.mem_cons_self
  simp only [groupRings]
  rw [groupRings_spec rest (GPoly.new first []) [] (fun x hx => hc x (List.mem_cons_of_mem _ hx))]
  simp [ungroup_eq, flatRings_new, hcl]

/-- refused conversions are an error: not a panic, not a silently different geometry -/
theorem refusals (o : Orient) :
    shapeToGeom .null = .err ∧
    geomToShape o .collection = .err ∧ geomToShape o .rect = .err ∧ geomToShape o .triangle = .err ∧
    (∀ b patches, (∃ p ∈ patches, p.1 = PatchKind.triangleStrip ∨ p.1 = PatchKind.triangleFan) →
      shapeToGeom (.multipatch b patches) = .err) := by
  refine ⟨rfl, rfl, rfl, rfl, fun b patches ⟨p, hp, hk⟩ => ?_⟩
  have : patches.any (fun p => (patchRole p.1).isNone) = true :=
    List.any_eq_true.mpr ⟨p, hp, by rcases hk with hk | hk <;> rw [hk] <;> rfl⟩
  rw [shapeToGeom, if_pos this]

theorem ring_multipatch_converts (b : BBox) (patches : List (PatchKind × List Pt))
    (h : ∀ p ∈ patches, (patchRole p.1).isSome) : ∃ g, shapeToGeom (.multipatch b patches) = .ok g := by
  have : ¬ patches.any (fun p => (patchRole p.1).isNone) = true := fun ha => by
    obtain ⟨p, hp, hn⟩ := List.any_eq_true.mp ha
    have hs := h p hp
    rw [Option.isNone_iff_eq_none.mp hn] at hs
    cases hs
  exact ⟨_, by rw [shapeToGeom, if_neg this]⟩

/-- for EVERY bit pattern of the measure (no-data, below the threshold, NaN, ±inf): an index below
`dim()` never panics and returns the matching field -/
theorem nth_below_dim (d : Dim) (p : Pt) (i : Nat) (hi : i < dimCount d p) :
    ∃ v, nthOrPanic d p i = some v ∧
      v = (match d, i with
           | _, 0 => p.x | _, 1 => p.y | .xym, _ => p.m | .xyzm, 2 => p.z | _, _ => p.m) := by
  match i, d, hi with
  | 0, d, _ | 1, d, _ => cases d <;> exact ⟨_, rfl, rfl⟩
  | 2, .xym, _ | 2, .xyzm, _ => exact ⟨_, rfl, rfl⟩
  | 3, .xyzm, hi =>
    -- the one guarded read; `dim()` is 4 only when the guard lets it through
    have hm : ¬ p.m.le F64.noData = true := fun hm => by simp [dimCount, hm] at hi
    exact ⟨p.m, by rw [nthOrPanic, if_neg hm], rfl⟩
  | n + 2, .xy, hi => exact absurd hi (Nat.not_lt.mpr (Nat.le_add_left 2 n))
  | n + 3, .xym, hi | n + 4, .xyzm, hi =>
    simp only [dimCount] at hi
    split at hi <;> omega

/-- non-vacuity: a PointZ whose measure is NaN reports four dimensions, all readable -/
example : dimCount .xyzm ⟨F64.zero, F64.zero, F64.zero, F64.ofNat 0x7ff8000000000000⟩ = 4 := by decide

end Shp.C20
