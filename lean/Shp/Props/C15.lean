/-
C15 — reader results do not depend on what was called before.
A refinement: the concrete reader (source position, book-keeping, index cursor) simulates an
abstract cursor over the list of records, for EVERY sequence of operations.  The consequences the
property names (`abs_*`) are read off the abstract machine.
-/
import Shp.Lemmas.FileRead
namespace Shp.C15
open Shp

/-- the abstract reader: a cursor `c` into the list of records -/
def absStep (shapes : List Shape) (c : Nat) : ROp → Nat × RRes
  | .iter j => (min (c + j) (max c shapes.length), .items (((shapes.drop c).take j).map ROut.shape))
  | .nth i => if h : i < shapes.length then (0, .one (.shape shapes[i])) else (c, .one .none)
  | .seek k => (min k shapes.length, .one .unit)
  | .count => (c, .one (.count shapes.length))
  | .hint => (c, .hintRes (some (shapes.length - c)))

def absRun (shapes : List Shape) (c : Nat) : List ROp → Nat × List RRes
  | [] => (c, [])
  | op :: ops =>
    let r := absStep shapes c op
    let rs := absRun shapes r.1 ops
    (rs.1, r.2 :: rs.2)

theorem step_refines {o : Orient} {tg : Target} {shapes : List Shape} {st : RState} (h : RInv o tg shapes st)
    (op : ROp) :
    (st.step o tg op).2 = (absStep shapes st.nextShape op).2 ∧
    RInv o tg shapes (st.step o tg op).1 ∧
    (st.step o tg op).1.nextShape = (absStep shapes st.nextShape op).1 := by
  cases op with
  | iter j =>
    obtain ⟨st', he, hinv, hn⟩ := h.iterAll j
    rw [RState.step, he]
    exact ⟨rfl, hinv, hn⟩
  | nth i =>
    rw [RState.step, absStep]
    by_cases hi : i < shapes.length
    · obtain ⟨st', he, hinv, hn⟩ := h.readNth i hi
      rw [he, dif_pos hi]
      exact ⟨rfl, hinv, hn⟩
    · rw [h.readNth_none i (by omega), dif_neg hi]
      exact ⟨rfl, h, rfl⟩
  | seek k =>
    obtain ⟨st', he, hinv, hn⟩ := h.seek k
    rw [RState.step, he]
    exact ⟨rfl, hinv, hn⟩
  | count =>
    rw [RState.step, h.shapeCount]
    exact ⟨rfl, h, rfl⟩
  | hint =>
    rw [RState.step, h.sizeHint]
    exact ⟨rfl, h, rfl⟩

/-- MAIN: for every operation sequence the concrete reader returns what the abstract cursor
returns; in particular random access at `i` returns record `i` whatever preceded it, the count
never changes, and an iteration yields exactly the records from the cursor's position on. -/
theorem run_refines {o : Orient} {tg : Target} {shapes : List Shape} (ops : List ROp) {st : RState}
    (h : RInv o tg shapes st) :
    (st.run o tg ops).2 = (absRun shapes st.nextShape ops).2 ∧ RInv o tg shapes (st.run o tg ops).1 := by
  induction ops generalizing st with
  | nil => exact ⟨rfl, h⟩
  | cons op ops ih =>
    obtain ⟨h1, h2, h3⟩ := step_refines h op
    obtain ⟨i1, i2⟩ := ih h2
    simp only [RState.run, absRun]
    rw [h1, i1, h3]
    exact ⟨rfl, i2⟩

theorem written_files_history (o : Orient) (tg : Target) (ss : List Shape) (hok : FileOK tg ss) (ops : List ROp) :
    ∃ st, RState.open (shpFile ss) (some (shxFile ss)) = .ok st ∧
      (st.run o tg ops).2 = (absRun (ss.map (Shape.readBack o)) 0 ops).2 := by
  obtain ⟨st, hopen, hinv, hn⟩ := open_written o tg ss hok
  refine ⟨st, hopen, ?_⟩
  have := (run_refines ops hinv).1
  rw [hn] at this
  exact this

theorem abs_fresh_iteration (shapes : List Shape) (j : Nat) (hj : shapes.length ≤ j) :
    (absStep shapes 0 (.iter j)).2 = .items (shapes.map ROut.shape) ∧ (absStep shapes 0 (.iter j)).1 = shapes.length := by
  simp only [absStep, List.drop_zero, List.take_of_length_le hj]
  exact ⟨trivial, by rw [Nat.zero_add, Nat.zero_max, Nat.min_eq_right hj]⟩

theorem abs_seek_then_iterate (shapes : List Shape) (c k j : Nat) (hj : shapes.length ≤ j) :
    let c1 := (absStep shapes c (.seek k)).1
    (absStep shapes c1 (.iter j)).2 = .items ((shapes.drop k).map ROut.shape) := by
  intro c1
  simp only [c1, absStep]
  by_cases hk : k ≤ shapes.length
  · rw [Nat.min_eq_left hk, List.take_of_length_le (by simp; omega)]
  · rw [Nat.min_eq_right (by omega), List.drop_eq_nil_of_le (Nat.le_refl _)]
    rw [List.drop_eq_nil_of_le (by omega)]
    simp

/-- after a successful random access an iteration starts again from the first record -/
theorem abs_nth_then_iterate (shapes : List Shape) (c i j : Nat) (hi : i < shapes.length) (hj : shapes.length ≤ j) :
    let c1 := (absStep shapes c (.nth i)).1
    (absStep shapes c1 (.iter j)).2 = .items (shapes.map ROut.shape) := by
  intro c1
  simp only [c1, absStep, hi, dif_pos, List.drop_zero, List.take_of_length_le hj]

theorem abs_iterate_twice (shapes : List Shape) (c j1 j2 : Nat) (hc : c ≤ shapes.length) (hj : shapes.length ≤ j2) :
    let c1 := (absStep shapes c (.iter j1)).1
    (absStep shapes c1 (.iter j2)).2 = .items ((shapes.drop (min (c + j1) shapes.length)).map ROut.shape) := by
  intro c1
  have : c1 = min (c + j1) shapes.length := by simp only [c1, absStep, Nat.max_eq_right hc]
  rw [this]
  simp only [absStep]
  rw [List.take_of_length_le (by simp; omega)]

/-- non-vacuity: a concrete two-record file meets `FileOK`, hence (`open_written`) the invariant -/
example : FileOK .generic [Shape.point .xy Pt.default, Shape.point .xy Pt.default] := by
  refine ⟨Homog.pair (by decide) rfl, ?_, ?_, ?_, ?_⟩
  · intro s hs; simp at hs; subst hs; decide
  · intro s hs; simp at hs; subst hs; simp
  · intro s hs; trivial
  · decide

end Shp.C15
