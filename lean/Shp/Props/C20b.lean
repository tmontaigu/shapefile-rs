/-
C20, the other direction — a geo-types polygon converted to a shape and back is the same polygon,
same grouping, each ring kept or reversed as a whole.
-/
import Shp.Lemmas.Fold
import Shp.Props.C20
import Shp.Props.C16
namespace Shp.C20
open Shp

def UpToRev (a b : List Pt) : Prop := a = b ∨ a = b.reverse

def RingsUpToRev : List (List Pt) → List (List Pt) → Prop
  | [], [] => True
  | a :: as, b :: bs => UpToRev a b ∧ RingsUpToRev as bs
  | _, _ => False

/-- as geo-types builds a polygon (2-D coordinates, rings closed by `Polygon::new`), plus a non-empty exterior -/
structure GoodPoly (p : GPoly) : Prop where
  ne : p.ext ≠ []
  xe : ∀ q ∈ p.ext, IsXY q
  xi : ∀ i ∈ p.ints, ∀ q ∈ i, IsXY q
  ce : isClosed .xy p.ext = true
  ci : ∀ i ∈ p.ints, isClosed .xy i = true

def PolyUpToRev (a b : GPoly) : Prop := UpToRev a.ext b.ext ∧ RingsUpToRev a.ints b.ints

def PolysUpToRev : List GPoly → List GPoly → Prop
  | [], [] => True
  | a :: as, b :: bs => PolyUpToRev a b ∧ PolysUpToRev as bs
  | _, _ => False

theorem GoodPoly.toXY_eq {p : GPoly} (hg : GoodPoly p) : (⟨p.ext.map toXY, p.ints.map (List.map toXY)⟩ : GPoly) = p := by
  rw [map_toXY_of_isXY _ hg.xe, map_map_toXY _ hg.xi]

theorem upToRev_isXY {a b : List Pt} (h : UpToRev a b) (hb : ∀ p ∈ b, IsXY p) : ∀ p ∈ a, IsXY p := by
  rcases h with rfl | rfl
  · exact hb
  · exact fun p hp => hb p (List.mem_reverse.mp hp)

theorem upToRev_closed {a b : List Pt} (h : UpToRev a b) (hb : isClosed .xy b = true) : isClosed .xy a = true := by
  rcases h with rfl | rfl
  · exact hb
  · rw [C16.isClosed_reverse]; exact hb

theorem upToRev_ne_nil {a b : List Pt} (h : UpToRev a b) (hb : b ≠ []) : a ≠ [] := by
  rcases h with rfl | rfl
  · exact hb
  · simpa using hb

theorem upToRev_trans {a b c : List Pt} (h1 : UpToRev a b) (h2 : UpToRev b c) : UpToRev a c := by
  rcases h1 with rfl | rfl <;> rcases h2 with rfl | rfl
  · exact Or.inl rfl
  · exact Or.inr rfl
  · exact Or.inr rfl
  · exact Or.inl (by simp)

theorem ringsUpToRev_trans : ∀ {a b c : List (List Pt)}, RingsUpToRev a b → RingsUpToRev b c → RingsUpToRev a c
  | [], [], [], _, _ => trivial
  | _ :: _, _ :: _, _ :: _, ⟨h1, t1⟩, ⟨h2, t2⟩ => ⟨upToRev_trans h1 h2, ringsUpToRev_trans t1 t2⟩
  | [], _ :: _, _, h, _ | _ :: _, [], _, h, _ => h.elim
  | [], [], _ :: _, _, h | _ :: _, _ :: _, [], _, h => h.elim

theorem ringsUpToRev_map (g : List Pt → List Pt) :
    ∀ l : List (List Pt), (∀ i ∈ l, UpToRev (g i) i) → RingsUpToRev (l.map g) l
  | [], _ => trivial
  | _ :: l, h => ⟨h _ List.mem_cons_self, ringsUpToRev_map g l fun j hj => h j (List.mem_cons_of_mem _ hj)⟩

theorem polysUpToRev_map (g : GPoly → GPoly) :
    ∀ l : List GPoly, (∀ p ∈ l, PolyUpToRev (g p) p) → PolysUpToRev (l.map g) l
  | [], _ => trivial
  | _ :: l, h => ⟨h _ List.mem_cons_self, polysUpToRev_map g l fun j hj => h j (List.mem_cons_of_mem _ hj)⟩

theorem ringsUpToRev_map_good {g : List Pt → List Pt} {l : List (List Pt)} (hu : ∀ i ∈ l, UpToRev (g i) i)
    (hx : ∀ i ∈ l, ∀ q ∈ i, IsXY q) (hc : ∀ i ∈ l, isClosed .xy i = true) :
    RingsUpToRev (l.map g) l ∧ (∀ i ∈ l.map g, ∀ q ∈ i, IsXY q) ∧ (∀ i ∈ l.map g, isClosed .xy i = true) :=
  ⟨ringsUpToRev_map g l hu, List.forall_mem_map.mpr fun i h => upToRev_isXY (hu i h) (hx i h),
    List.forall_mem_map.mpr fun i h => upToRev_closed (hu i h) (hc i h)⟩

theorem closeAndReorder_closed_ring (o : Orient) (r : Role) (l : List Pt) (hc : isClosed .xy l = true) :
    UpToRev (closeAndReorder o .xy (r, l)).2 l := by
  have h := (C16.closeAndReorder_spec o .xy (r, l)).2
  rwa [C16.closePoints_of_closed .xy l hc] at h

theorem inner_rings_reordered (o : Orient) (l : List (List Pt))
    (hx : ∀ i ∈ l, ∀ q ∈ i, IsXY q) (hc : ∀ i ∈ l, isClosed .xy i = true) :
    ∃ ints', l.map (fun i => closeAndReorder o .xy (Role.inner, i)) = ints'.map (fun i => (Role.inner, i)) ∧
      RingsUpToRev ints' l ∧ (∀ i ∈ ints', ∀ q ∈ i, IsXY q) ∧ (∀ i ∈ ints', isClosed .xy i = true) :=
  ⟨l.map fun i => (closeAndReorder o .xy (.inner, i)).2, by rw [List.map_map]; rfl,
    ringsUpToRev_map_good (fun i hi => closeAndReorder_closed_ring o .inner i (hc i hi)) hx hc⟩

def reorderPoly (o : Orient) (p : GPoly) : GPoly :=
  ⟨(closeAndReorder o .xy (.outer, p.ext)).2, p.ints.map fun i => (closeAndReorder o .xy (.inner, i)).2⟩

theorem flatRings_reorderPoly (o : Orient) (p : GPoly) :
    (flatRings p).map (closeAndReorder o .xy) = flatRings (reorderPoly o p) := by
  simp only [flatRings, reorderPoly, List.map_cons, List.map_map]
  rfl

theorem flatRings_reorder (o : Orient) (ps : List GPoly) :
    (ps.flatMap flatRings).map (closeAndReorder o .xy) = (ps.map (reorderPoly o)).flatMap flatRings := by
  simp only [List.map_flatMap, List.flatMap_map, flatRings_reorderPoly]

theorem reorderPoly_spec (o : Orient) (p : GPoly) (hg : GoodPoly p) :
    PolyUpToRev (reorderPoly o p) p ∧ GoodPoly (reorderPoly o p) :=
  have he := closeAndReorder_closed_ring o .outer p.ext hg.ce
  have ⟨hi, hxi, hci⟩ := ringsUpToRev_map_good (g := fun i => (closeAndReorder o .xy (.inner, i)).2)
    (fun i h => closeAndReorder_closed_ring o .inner i (hg.ci i h)) hg.xi hg.ci
  ⟨⟨he, hi⟩, upToRev_ne_nil he hg.ne, upToRev_isXY he hg.xe, hxi, upToRev_closed he hg.ce, hci⟩

theorem reorderPoly_good (o : Orient) {ps : List GPoly} (hg : ∀ p ∈ ps, GoodPoly p) :
    ∀ p ∈ ps.map (reorderPoly o), GoodPoly p :=
  List.forall_mem_map.mpr fun p hp => (reorderPoly_spec o p (hg p hp)).2

theorem groupRings_inners (inners : List (List Pt)) (rest : List (Role × List Pt)) (last : GPoly) (acc : List GPoly) :
    groupRings ((inners.map fun i => (Role.inner, i)) ++ rest) (some last) acc =
      groupRings rest (some { last with ints := last.ints ++ inners.map closeLS }) acc := by
  induction inners generalizing last with
  | nil => simp
  | cons i is ih =>
    simp only [List.map_cons, List.cons_append, groupRings]
    rw [ih]
    simp [GPoly.pushInterior, List.append_assoc]

theorem groupRings_one (e : List Pt) (inners : List (List Pt)) (last : GPoly) :
    groupRings (inners.map fun i => (Role.inner, i)) (some last) [] =
      [{ last with ints := last.ints ++ inners.map closeLS }] := by
  simpa [groupRings] using groupRings_inners inners [] last []

def normPoly (p : GPoly) : GPoly := ⟨closeLS p.ext, p.ints.map closeLS⟩

theorem normPoly_eq (p : GPoly) : normPoly p = GPoly.new p.ext p.ints := rfl

theorem normPoly_good (p : GPoly) (hg : GoodPoly p) : normPoly p = p := by
  cases p with
  | mk e is =>
    show GPoly.mk (closePoints .xy e) (is.map (closePoints .xy)) = _
    rw [C16.closePoints_of_closed .xy e hg.ce, map_fix fun i hi => C16.closePoints_of_closed .xy i (hg.ci i hi)]

/-- `groupRings` undoes `ungroup`, up to `LineString::close` on each ring -/
theorem groupRings_polys (qs : List GPoly) (last : Option GPoly) (acc : List GPoly) :
    groupRings (qs.flatMap flatRings) last acc = acc ++ last.toList ++ qs.map normPoly := by
  induction qs generalizing last acc with
  | nil => cases last <;> simp [groupRings]
  | cons q qs ih =>
    simp only [List.flatMap_cons, flatRings, List.cons_append, groupRings]
    rw [groupRings_inners, ih, List.map_cons, normPoly_eq]
    cases last <;> simp [GPoly.new, List.append_assoc]

theorem flatRings_isXY {p : GPoly} (hg : GoodPoly p) : ∀ r ∈ flatRings p, ∀ q ∈ r.2, IsXY q := by
  intro r hr
  rcases List.mem_cons.mp hr with rfl | hr
  · exact hg.xe
  · obtain ⟨i, hi, rfl⟩ := List.mem_map.mp hr
    exact hg.xi i hi

theorem shapeToGeom_flatRings (b : BBox) (qs : List GPoly) (hg : ∀ p ∈ qs, GoodPoly p) :
    shapeToGeom (.polygon .xy b (qs.flatMap flatRings)) = .ok (.multiPolygon qs) := by
  have hxy : (qs.flatMap flatRings).map (fun r => (r.1, r.2.map toXY)) = qs.flatMap flatRings :=
    map_fix fun r hr => by
      obtain ⟨p, hp, hrp⟩ := List.mem_flatMap.mp hr
      rw [map_toXY_of_isXY _ (flatRings_isXY (hg p hp) r hrp)]
  simp only [shapeToGeom, hxy, groupRings_polys, Option.toList, List.append_nil, List.nil_append,
    map_fix fun p hp => normPoly_good p (hg p hp)]

theorem roundtrip_flatRings (o : Orient) (ps : List GPoly) (hne : ps ≠ []) (hg : ∀ p ∈ ps, GoodPoly p) :
    ∃ s, Shape.mkPolygonRings o .xy (ps.flatMap flatRings) = some s ∧
      shapeToGeom s = .ok (.multiPolygon (ps.map (reorderPoly o))) := by
  have hg' := reorderPoly_good o hg
  -- the first ring is not empty, so the box exists
  obtain ⟨p0, rest, rfl⟩ := List.exists_cons_of_ne_nil hne
  obtain ⟨b, hb⟩ : ∃ b, BBox.fromParts .xy ((((p0 :: rest).map (reorderPoly o)).flatMap flatRings).map (·.2)) = some b :=
    fromParts_some .xy _ _ (hg' _ List.mem_cons_self).ne
  exact ⟨_, by simp only [Shape.mkPolygonRings, flatRings_reorder, hb, Option.map_some], shapeToGeom_flatRings b _ hg'⟩

/-- MAIN (geo → shape → geo, polygons): a geo-types polygon (rings closed, as `Polygon::new`
leaves them; a non-empty exterior) converted to a shape and back is ONE polygon with the same
exterior and the same holes, in the same order, each ring either kept or reversed as a whole;
no coordinate is lost, altered or moved to another ring -/
theorem geo_polygon_roundtrip (o : Orient) (p : GPoly) (hne : p.ext ≠ [])
    (hxe : ∀ q ∈ p.ext, IsXY q) (hxi : ∀ i ∈ p.ints, ∀ q ∈ i, IsXY q)
    (hce : isClosed .xy p.ext = true) (hci : ∀ i ∈ p.ints, isClosed .xy i = true) :
    ∃ s p', geomToShape o (.polygon p) = .ok s ∧ shapeToGeom s = .ok (.multiPolygon [p']) ∧
      UpToRev p'.ext p.ext ∧ RingsUpToRev p'.ints p.ints := by
  have hg : GoodPoly p := ⟨hne, hxe, hxi, hce, hci⟩
  obtain ⟨s, h, hs⟩ := roundtrip_flatRings o [p] (List.cons_ne_nil _ _) (List.forall_mem_cons.mpr ⟨hg, nofun⟩)
  have hrings : ((Role.outer, p.ext.map toXY) :: p.ints.map fun i => (Role.inner, i.map toXY)) = [p].flatMap flatRings :=
    calc _ = flatRings ⟨p.ext.map toXY, p.ints.map (List.map toXY)⟩ := by simp [flatRings]
      _ = _ := by rw [hg.toXY_eq, List.flatMap_singleton]
  exact ⟨s, reorderPoly o p, by simp only [geomToShape, hrings, h, optShape], hs, (reorderPoly_spec o p hg).1⟩

/-- MAIN (geo → shape → geo, multi-polygons): a geo-types `MultiPolygon` of good polygons (at least
one) converted to a shape and back is the same list of polygons: same count, same order, each with
its own exterior and its own holes, every ring kept or reversed as a whole -/
theorem geo_multipolygon_roundtrip (o : Orient) (ps : List GPoly) (hne : ps ≠ []) (hg : ∀ p ∈ ps, GoodPoly p) :
    ∃ s ps', geomToShape o (.multiPolygon ps) = .ok s ∧ shapeToGeom s = .ok (.multiPolygon ps') ∧
      PolysUpToRev ps' ps := by
  have hany : (ps.any fun p => p.ext.isEmpty) = false :=
    List.any_eq_false.mpr fun p hp => by simpa using (hg p hp).ne
  -- `with_rings` per polygon, then `with_rings` on all the rings together
  have hfirst : ps.flatMap (fun p => ringsOfGPoly o ⟨p.ext.map toXY, p.ints.map (List.map toXY)⟩) =
      (ps.map (reorderPoly o)).flatMap flatRings := by
    rw [List.flatMap_map, List.flatMap_def, List.flatMap_def]
    exact congrArg _ (List.map_congr_left fun p hp => by rw [(hg p hp).toXY_eq, ringsOfGPoly_eq, flatRings_reorderPoly])
  obtain ⟨s, h, hs⟩ := roundtrip_flatRings o (ps.map (reorderPoly o)) (mt List.map_eq_nil_iff.mp hne) (reorderPoly_good o hg)
  refine ⟨s, _, by simp only [geomToShape, hany, Bool.false_eq_true, if_false, hfirst, h, optShape], hs, ?_⟩
  -- every ring went through `close_and_reorder` twice
  rw [List.map_map]
  exact polysUpToRev_map _ ps fun p hp =>
    have ⟨u1, g⟩ := reorderPoly_spec o p (hg p hp)
    have ⟨u2, _⟩ := reorderPoly_spec o _ g
    ⟨upToRev_trans u2.1 u1.1, ringsUpToRev_trans u2.2 u1.2⟩

/-! geo → shape → geo for points and lines: non-empty components come back identically, as the
corresponding multi-geometry (a `LineString` or a `Line` as a one-line `MultiLineString`) -/

theorem geo_point_roundtrip (o : Orient) (p : Pt) (h : IsXY p) :
    ∃ s, geomToShape o (.point p) = .ok s ∧ shapeToGeom s = .ok (.point p) :=
  ⟨.point .xy (toXY p), rfl, by simp only [shapeToGeom, toXY_of_isXY p h]⟩

theorem geo_multipoint_roundtrip (o : Orient) (pts : List Pt) (hne : pts ≠ []) (h : ∀ p ∈ pts, IsXY p) :
    ∃ s, geomToShape o (.multiPoint pts) = .ok s ∧ shapeToGeom s = .ok (.multiPoint pts) := by
  have hm := map_toXY_of_isXY _ h
  obtain ⟨b, hb⟩ := Shape.mkMultipoint_some .xy pts hne
  exact ⟨.multipoint .xy b pts, by simp only [geomToShape, hm, hb, optShape], by simp only [shapeToGeom, hm]⟩

theorem geo_multilinestring_roundtrip (o : Orient) (ls : List (List Pt)) (hne : ls ≠ [])
    (h2 : ∀ l ∈ ls, 2 ≤ l.length) (h : ∀ l ∈ ls, ∀ p ∈ l, IsXY p) :
    ∃ s, geomToShape o (.multiLineString ls) = .ok s ∧ shapeToGeom s = .ok (.multiLineString ls) := by
  have hm := map_map_toXY ls h
  obtain ⟨b, hb⟩ := Shape.mkPolylineParts_some .xy ls hne h2
  exact ⟨.polyline .xy b ls, by simp only [geomToShape, hm, hb, optShape], by simp only [shapeToGeom, hm]⟩

theorem geo_linestring_roundtrip (o : Orient) (l : List Pt) (h2 : 2 ≤ l.length) (h : ∀ p ∈ l, IsXY p) :
    ∃ s, geomToShape o (.lineString l) = .ok s ∧ shapeToGeom s = .ok (.multiLineString [l]) := by
  have hm := map_toXY_of_isXY l h
  obtain ⟨b, hb⟩ := Shape.mkPolyline_some .xy l h2
  exact ⟨.polyline .xy b [l], by simp only [geomToShape, hm, hb, optShape],
    by simp only [shapeToGeom, List.map_cons, List.map_nil, hm]⟩

theorem geo_line_roundtrip (o : Orient) (a b : Pt) (ha : IsXY a) (hb : IsXY b) :
    ∃ s, geomToShape o (.line a b) = .ok s ∧ s.parts = [[a, b]] ∧
      shapeToGeom s = .ok (.multiLineString [[a, b]]) := by
  obtain ⟨bx, hbx⟩ := Shape.mkPolyline_some .xy [a, b] (Nat.le_refl 2)
  exact ⟨.polyline .xy bx [[a, b]], by simp only [geomToShape, toXY_of_isXY a ha, toXY_of_isXY b hb, hbx, optShape], rfl,
    by simp only [shapeToGeom, List.map_cons, List.map_nil, toXY_of_isXY a ha, toXY_of_isXY b hb]⟩

/-- non-vacuity: a closed ring of 2-D points (two equal vertices) -/
example : isClosed .xy [⟨F64.zero, F64.zero, F64.zero, F64.noData⟩, ⟨F64.zero, F64.zero, F64.zero, F64.noData⟩] = true := by decide

end Shp.C20
