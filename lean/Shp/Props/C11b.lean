/-
C11, last sentence — everything written before the last finalize that completed on the .shp
remains readable from it, wherever a later crash hits (including inside a later header rewrite).
-/
import Shp.Props.C11
import Shp.Lemmas.Torn
import Shp.Lemmas.Stream
namespace Shp.C11
open Shp Dec

theorem durable_atStream {o : Orient} {tg : Target} {t : ShapeType} (ss1 ss2 : List Shape) (k avail fuel : Nat)
    (st : RState) (hok : ∀ s ∈ ss1, RecOK tg t s) (hk : k + ss1.length < 2147483648)
    (h : AtStream t k (ss1 ++ ss2) avail st) (hwhole : 2 * totalWords ss1 ≤ avail)
    (hdecl : st.srcPos + 2 * totalWords ss1 ≤ st.declaredEnd)
    (hfuel : ss1.length ≤ fuel) :
    ∃ rest, (st.iterAll o tg fuel).2 = ss1.map (fun s => ROut.shape (s.readBack o)) ++ rest := by
  induction ss1 generalizing k avail fuel st with
  | nil => exact ⟨_, rfl⟩
  | cons s ss ih =>
    obtain ⟨hs, hok⟩ := List.forall_mem_cons.1 hok
    obtain ⟨fuel, rfl⟩ : ∃ f, fuel = f + 1 := ⟨fuel - 1, by simp only [List.length_cons] at hfuel; omega⟩
    simp only [totalWords, List.length_cons] at hwhole hdecl hk hfuel
    obtain ⟨st1, hn, h1, hh, hp⟩ := h.whole (o := o) hs (by omega) (by omega) (by omega)
    obtain ⟨rest, hrest⟩ := ih (k + 1) _ fuel st1 hok (by omega) h1 (by omega) (by rw [hh, hp]; omega) (by omega)
    exact ⟨rest, by rw [RState.iterAll_succ_cons fuel hn (by simp), hrest]; rfl⟩

/-- MAIN (reader side): the stream holds the records of `ss1` whole (then anything: more records,
a cut record, nothing) and the header's declared length covers them: a sequential reader yields the
shapes of `ss1`, in order, each equal to the original as read back, before anything else. -/
theorem durable_stream (o : Orient) (tg : Target) (t : ShapeType) (ss1 ss2 : List Shape) (k avail fuel : Nat)
    (st : RState)
    (hsz : ∀ s ∈ ss1, s.Sized) (hnn : ∀ s ∈ ss1, s ≠ .null) (hty : ∀ s ∈ ss1, s.writeType = t)
    (hacc : ∀ s ∈ ss1, tg.Accepts s.writeType) (hk : k + ss1.length < 2147483648)
    (hidx : st.index = none) (hpos : st.currentPos = some st.srcPos)
    (hdata : st.data.drop st.srcPos = (recordsFrom t k (ss1 ++ ss2)).take avail)
    (hwhole : 2 * totalWords ss1 ≤ avail)
    (hdecl : st.srcPos + 2 * totalWords ss1 ≤ ((wordsToBytes st.header.fileLength).getD 0).toNat)
    (hfuel : ss1.length ≤ fuel) :
    ∃ rest, (st.iterAll o tg fuel).2 = ss1.map (fun s => ROut.shape (s.readBack o)) ++ rest :=
  durable_atStream ss1 ss2 k avail fuel st (RecOK.of hsz hty hacc) hk ⟨hidx, hpos, hdata⟩ hwhole hdecl hfuel

/-- a header region through which the shapes of `ss1` stay reachable: it parses, and the length it
declares covers their records -/
def Good (ss1 : List Shape) (hb : Bytes) : Prop :=
  hb.length = 100 ∧ ∀ rest, ∃ h, readHeader (hb ++ rest) = .ok h rest ∧
    ((50 + totalWords ss1 : Nat) : Int) ≤ h.fileLength ∧ h.fileLength < 2147483648

theorem good_final (ss1 a : List Shape) (hb : 50 + totalWords (ss1 ++ a) < 2147483648) :
    Good ss1 (finalHeader (ss1 ++ a)).enc := by
  refine ⟨Header.enc_length _, fun rest => ⟨finalHeader (ss1 ++ a), ?_, ?_, ?_⟩⟩
  · exact readHeader_finalHeader (ss1 ++ a) hb rest
  · simp only [finalHeader, totalWords_append]; omega
  · simp only [finalHeader]; omega

theorem good_torn (ss1 a b : List Shape) (hne : ss1 ≠ []) (hb : 50 + totalWords (ss1 ++ a ++ b) < 2147483648)
    (c : Nat) (hc : c ≤ 100) :
    Good ss1 ((finalHeader (ss1 ++ a ++ b)).enc.take c ++ (finalHeader (ss1 ++ a)).enc.drop c) := by
  have hta := totalWords_append (ss1 ++ a) b
  have hta1 := totalWords_append ss1 a
  refine ⟨by simp only [List.length_append, List.length_take, List.length_drop, Header.enc_length]; omega, fun rest => ?_⟩
  obtain ⟨h, hr, h1, h2⟩ := torn_header (finalHeader (ss1 ++ a)) (finalHeader (ss1 ++ a ++ b))
    (by simp only [finalHeader]
        rw [List.append_assoc, fileTypeOf_append ss1 (a ++ b) hne, fileTypeOf_append ss1 a hne])
    (by simp only [finalHeader]; omega) (by simp only [finalHeader]; omega) (by simp only [finalHeader]; omega)
    c hc rest
  refine ⟨h, hr, ?_, h2⟩
  simp only [finalHeader] at h1
  omega

/-- the writer after a finalize that committed `ss1`: its usual invariant, and the header region
holds the complete header written by the last finalize, for some list between `ss1` and now; the
records are typed by `ss1`, as every extension of a non-empty list is (`fileTypeOf_append`) -/
structure DInv (ss1 : List Shape) (w : World) (ss : List Shape) : Prop where
  inv : WInv w ss
  hdr : ∃ a b, ss = ss1 ++ a ++ b ∧
    w.shp.data = (finalHeader (ss1 ++ a)).enc ++ recordsFrom (fileTypeOf ss1) 1 (ss1 ++ a ++ b)

theorem DInv.ofFinalize {w : World} {ss1 : List Shape} (h : WInv w ss1) :
    DInv ss1 (w.call .finalize).1 ss1 := by
  obtain ⟨_, hinv, hclean, _⟩ := h.finalize
  refine ⟨hinv, [], [], by simp, ?_⟩
  have := (hinv.clean hclean).1
  simpa [shpFile] using this

theorem DInv.ne_nil {ss1 : List Shape} (hne : ss1 ≠ []) {w : World} {ss : List Shape} (h : DInv ss1 w ss) : ss ≠ [] := by
  obtain ⟨a, b, rfl, _⟩ := h.hdr
  simp [hne]

theorem DInv.fileType {ss1 : List Shape} (hne : ss1 ≠ []) {w : World} {ss : List Shape} (h : DInv ss1 w ss) :
    fileTypeOf ss = fileTypeOf ss1 := by
  obtain ⟨a, b, rfl, _⟩ := h.hdr
  rw [List.append_assoc, fileTypeOf_append ss1 (a ++ b) hne]

theorem DInv.call {ss1 : List Shape} (hne : ss1 ≠ []) {w : World} {ss : List Shape} (h : DInv ss1 w ss) (c : WCall)
    (hc : c ≠ .writeShape .null) : DInv ss1 (w.call c).1 (acceptStep ss c) := by
  refine ⟨h.inv.call c hc, ?_⟩
  have hft := h.fileType hne
  have hops := h.inv.call_ops_shp (h.ne_nil hne) c
  obtain ⟨a, b, rfl, hdata⟩ := h.hdr
  rw [← World.dst_shp (w.call c).1, w.call_dst, w.dst_shp]
  rcases hops with ⟨ha, ho⟩ | ⟨ha, ho⟩ | ⟨s, ha, ho⟩ <;> rw [ha, ho]
  · exact ⟨a, b, rfl, hdata⟩
  · -- finalize: the header of everything accepted so far
    refine ⟨a ++ b, [], by rw [List.append_nil, List.append_assoc], ?_⟩
    rw [h.inv.toW.shp.finalize _ (Header.enc_length _), hft, List.append_nil, List.append_assoc]
  · -- an accepted write: one more record behind the same header
    refine ⟨a, b ++ [s], by rw [List.append_assoc], ?_⟩
    rw [show w.shp.applyAll [.write _] = w.shp.apply (.write _) from rfl, Dst.apply_write_end w.shp _ (h.inv.holds .shp rfl).pos,
      hdata, ← List.append_assoc _ b, recordsFrom_snoc, hft, List.append_assoc]

/-- what a crashed .shp looks like once `ss1` has been committed: a good header region, then a
byte-prefix of a record stream that starts with all the records of `ss1` -/
def Survives (ss1 : List Shape) (data : Bytes) : Prop :=
  ∃ HB n ss2, Good ss1 HB ∧ data = HB ++ (recordsFrom (fileTypeOf ss1) 1 (ss1 ++ ss2)).take n ∧
    2 * totalWords ss1 ≤ n

theorem DInv.survives {ss1 : List Shape} {w : World} {ss : List Shape} (h : DInv ss1 w ss)
    (hb : 50 + totalWords ss < 2147483648) : Survives ss1 w.shp.data := by
  obtain ⟨a, b, rfl, hdata⟩ := h.hdr
  have hta := totalWords_append (ss1 ++ a) b
  have hta1 := totalWords_append ss1 a
  refine ⟨(finalHeader (ss1 ++ a)).enc, (recordsFrom (fileTypeOf ss1) 1 (ss1 ++ (a ++ b))).length, a ++ b,
    good_final ss1 a (by omega), ?_, ?_⟩
  · rw [List.take_of_length_le (Nat.le_refl _), hdata, List.append_assoc]
  · rw [recordsFrom_length, totalWords_append]; omega

theorem DInv.run {ss1 : List Shape} (hne : ss1 ≠ []) {w : World} {ss : List Shape} (h : DInv ss1 w ss) (cs : List WCall)
    (hcs : NonNullCalls cs) : DInv ss1 (w.run cs) (cs.foldl acceptStep ss) := by
  induction cs generalizing w ss with
  | nil => exact h
  | cons c cs ih =>
    exact ih (h.call hne c (hcs c List.mem_cons_self)) hcs.tail

theorem DInv.crash_call {ss1 : List Shape} (hne : ss1 ≠ []) {w : World} {ss : List Shape} (h : DInv ss1 w ss) (c : WCall)
    (hb : 50 + totalWords (acceptStep ss c) < 2147483648) (k cut : Nat) :
    Survives ss1 (w.shp.applyPrefix (callOps .shp w c) k cut).data := by
  have hft := h.fileType hne
  have hops := h.inv.call_ops_shp (h.ne_nil hne) c
  obtain ⟨a, b, rfl, hdata⟩ := h.hdr
  have hta := totalWords_append (ss1 ++ a) b
  have hta1 := totalWords_append ss1 a
  have hlen := recordsFrom_length (fileTypeOf ss1) 1 (ss1 ++ a ++ b)
  rcases hops with ⟨ha, ho⟩ | ⟨ha, ho⟩ | ⟨s, ha, ho⟩
  · rw [ho, Dst.applyPrefix_nil]
    exact h.survives (ha ▸ hb)
  · -- a header rewrite, cut anywhere: a mixture of the last complete header and the new one
    obtain ⟨c, hc, e⟩ := w.shp.applyPrefix_finalize (finalHeader (ss1 ++ a ++ b)).enc k cut
    rw [Header.enc_length] at hc
    rw [ho, e, hdata, List.drop_append_of_le_length (by rw [Header.enc_length]; exact hc), ← List.append_assoc]
    exact ⟨_, (recordsFrom (fileTypeOf ss1) 1 (ss1 ++ a ++ b)).length, a ++ b, good_torn ss1 a b hne (ha ▸ hb) c hc,
      by rw [← List.append_assoc ss1 a b, List.take_length], by omega⟩
  · -- a record appended, cut anywhere, behind the last complete header
    obtain ⟨c', e⟩ := w.shp.applyPrefix_append_end (encRecord ((ss1 ++ a ++ b).length + 1 : Nat) (fileTypeOf ss1) s)
      (h.inv.holds .shp rfl).pos k cut
    rw [ha, totalWords_append] at hb
    refine ⟨(finalHeader (ss1 ++ a)).enc, (recordsFrom (fileTypeOf ss1) 1 (ss1 ++ a ++ b)).length + c', a ++ b ++ [s],
      good_final ss1 a (by omega), ?_, by omega⟩
    rw [ho, hft, e, hdata, ← List.append_assoc ss1, ← List.append_assoc ss1, recordsFrom_snoc,
      List.take_length_add_append, List.append_assoc]

theorem Survives.read {o : Orient} {tg : Target} {ss1 : List Shape} {data : Bytes} (h : Survives ss1 data)
    (hok : ∀ s ∈ ss1, RecOK tg (fileTypeOf ss1) s) :
    ∃ st, RState.open data none = .ok st ∧ ∀ fuel, ss1.length ≤ fuel →
      ∃ rest, (st.iterAll o tg fuel).2 = ss1.map (fun s => ROut.shape (s.readBack o)) ++ rest := by
  obtain ⟨HB, n, ss2, ⟨hHB, hgood⟩, rfl, hn⟩ := h
  obtain ⟨h, hread, hlo, hhi⟩ := hgood ((recordsFrom (fileTypeOf ss1) 1 (ss1 ++ ss2)).take n)
  have hl := length_le_totalWords ss1
  refine ⟨_, RState.open_none hread, fun fuel hfuel => durable_atStream ss1 ss2 1 n fuel _ hok (by omega)
    ⟨rfl, rfl, by show List.drop 100 _ = _; rw [List.drop_left' hHB]⟩ hn ?_ hfuel⟩
  show 100 + _ ≤ ((wordsToBytes h.fileLength).getD 0).toNat
  rw [wordsToBytes_nonneg (by omega), Option.getD_some]
  omega

/-- MAIN (writer side): once a finalize has committed `ss1`, EVERY crash point of the later history
leaves a .shp through which `ss1` stays reachable -/
theorem durable_crash {ss1 : List Shape} (hne : ss1 ≠ []) {w : World} {ss : List Shape} (h : DInv ss1 w ss)
    (cs : List WCall) (hcs : NonNullCalls cs) (hb : 50 + totalWords (cs.foldl acceptStep ss) < 2147483648)
    (k cut : Nat) : Survives ss1 (w.shp.applyPrefix (histOps .shp w cs) k cut).data := by
  rcases histOps_crash .shp w ss hcs k cut with e | ⟨cs1, c, k', more, hcs1, hmore, e⟩ <;> rw [← w.dst_shp, e]
  · exact (h.run hne cs hcs).survives hb
  · rw [hmore, totalWords_append] at hb
    exact (h.run hne cs1 hcs1).crash_call hne c (by omega) k' cut

/-- MAIN (C11, last sentence, end to end): ANY history, a finalize that completed, ANY later history,
and a crash at ANY point of the operations that later history issues to the .shp — any operation,
any byte of a write, including inside a later rewrite of the header.  A reader opened on what was
persisted opens successfully and yields, first and in order, every shape accepted before that
finalize, each equal to the original as read back. -/
theorem durable_global (o : Orient) (tg : Target) (hasShx : Bool) (cs1 cs2 : List WCall) (k cut : Nat)
    (hcs : NonNullCalls (cs1 ++ WCall.finalize :: cs2))
    (hok : FileOK tg (acceptedOf (cs1 ++ WCall.finalize :: cs2)))
    (hne : acceptedOf cs1 ≠ []) :
    ∃ st, RState.open
        ((((World.init hasShx).run (cs1 ++ [WCall.finalize])).shp.applyPrefix
          (histOps .shp ((World.init hasShx).run (cs1 ++ [WCall.finalize])) cs2) k cut).data) none = .ok st ∧
      ∀ fuel, (acceptedOf cs1).length ≤ fuel →
        ∃ rest, (st.iterAll o tg fuel).2 = (acceptedOf cs1).map (fun s => ROut.shape (s.readBack o)) ++ rest := by
  have hcs2 : NonNullCalls cs2 := fun x hx => hcs x (List.mem_append_right _ (List.mem_cons_of_mem _ hx))
  rw [World.run_concat]
  have hd := DInv.ofFinalize (WInv.reachable hasShx cs1 hcs.left)
  rw [show acceptedOf (cs1 ++ WCall.finalize :: cs2) = cs2.foldl acceptStep (acceptedOf cs1) by
    simp [acceptedOf, List.foldl_append, acceptStep]] at hok
  have hs := durable_crash hne hd cs2 hcs2 hok.total k cut
  obtain ⟨more, hmore⟩ := foldl_acceptStep_prefix (acceptedOf cs1) cs2
  rw [hmore] at hok
  exact hs.read fun s hs => fileTypeOf_append _ more hne ▸ hok.recOK s (List.mem_append_left _ hs)

/-- non-vacuity: a history meeting the hypotheses of `durable_global` -/
example : acceptedOf [WCall.writeShape (Shape.point .xy Pt.default)] ≠ [] ∧
    NonNullCalls ([WCall.writeShape (Shape.point .xy Pt.default)] ++ WCall.finalize ::
      [WCall.writeShape (Shape.point .xy Pt.default), WCall.finalize]) := by
  refine ⟨by decide, ?_⟩
  intro c hc
  simp at hc
  rcases hc with rfl | rfl | rfl | rfl <;> simp

end Shp.C11
