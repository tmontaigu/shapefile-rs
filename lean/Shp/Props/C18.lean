/-
C18 — a shape's announced byte size equals what its serialisation emits.
`sizeInBytes` is built from the affine terms GENERATED from every `size_in_bytes` body on this run.
-/
import Shp.Lemmas.Length
namespace Shp.C18
open Shp

/-- announced size = emitted size, for EVERY shape of every type (any number of parts and points) -/
theorem encodeContent_length (s : Shape) : s.encodeContent.length = s.sizeInBytes := s.encodeContent_length

/-- the size plus the 4-byte type code is a whole number of 16-bit words: every coefficient of the
generated size terms is even -/
theorem size_plus_code_even (s : Shape) : (s.sizeInBytes + 4) % 2 = 0 := s.size_plus_code_even

/-- the record header's content length (in words) counts the 4-byte type code -/
theorem record_words (s : Shape) : 2 * recordSizeWords s = 4 + s.encodeContent.length := Shp.record_words s

theorem encRecord_length (num : Int) (t : ShapeType) (s : Shape) :
    (encRecord num t s).length = 8 + 2 * recordSizeWords s := Shp.encRecord_length num t s

/-- non-vacuity: a two-part PolylineM with 2 + 3 points announces 56 + 4·2 + 24·5 bytes -/
example : (Shape.polyline .xym BBox.default [[Pt.default, Pt.default], [Pt.default, Pt.default, Pt.default]]).sizeInBytes = 184 := by
  decide

end Shp.C18
