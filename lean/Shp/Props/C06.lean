/-
C06 — typed reads agree with generic reads; shape type identity is consistent.
Table facts are over the tables GENERATED from src/record/*.rs on this run.
-/
import Shp.Lemmas.ReaderStep
namespace Shp.C06
open Shp Dec

/-- the type reported by a generic value = the type attached to its concrete Rust type -/
theorem shapetype_eq_concreteType (v : Variant) :
    v.concreteType = some v.shapetype ∨ (v = .nullShape ∧ v.concreteType = none) := by
  cases v <;> decide

/-- the generic reader builds, for a record of type `t`, the variant whose type is `t`,
using the reader of the concrete type `t` -/
theorem dispatch_consistent (t : ShapeType) :
    (dispatch t).1.shapetype = t ∧ (dispatch t).2 = (dispatch t).1.concreteType := by
  cases t <;> decide

/-- `From<T> for Shape` followed by `TryFrom<Shape> for T` is the identity: each concrete type
name converts to exactly one variant, whose concrete type it is -/
theorem conversion_table_bijective (v : Variant) (hv : v ≠ .nullShape) :
    ∃ n, Variant.ofConcreteName n = some v ∧ (v.concreteType.map ShapeType.name) = some n := by
  cases v
  case nullShape => exact absurd rfl hv
  all_goals exact ⟨_, rfl, rfl⟩

theorem dispatch_shapetype (v : Variant) : (dispatch v.shapetype).1 = v := by
  cases v <;> rfl

theorem shapetype_injective (a b : Variant) (h : a.shapetype = b.shapetype) : a = b := by
  rw [← dispatch_shapetype a, h, dispatch_shapetype]

/-- `TryFrom<Shape> for S` -/
def tryInto (S : ShapeType) (s : Shape) : Except Err Shape :=
  if s.shapetype = S then .ok s else .error (.mismatch S s.shapetype)

/-- `convert_shapes_to_vec_of::<S>`: stops at the first mismatch -/
def convertAll (S : ShapeType) : List Shape → Except Err (List Shape)
  | [] => .ok []
  | s :: rest => match tryInto S s with
    | .error e => .error e
    | .ok s' => match convertAll S rest with
      | .error e => .error e
      | .ok l => .ok (s' :: l)

theorem tryInto_self (s : Shape) : tryInto s.shapetype s = .ok s := by simp [tryInto]

theorem tryInto_other (S : ShapeType) (s : Shape) (h : s.shapetype ≠ S) :
    tryInto S s = .error (.mismatch S s.shapetype) := by simp [tryInto, h]

theorem readContentOf_shapetype (o : Orient) (t : ShapeType) (rs : Int) :
    Post (readContentOf o t rs) (fun s => s.shapetype = t) := by
  cases t <;> simp only [readContentOf]
  case nullShape => exact Post.pure rfl
  case point =>
    unfold readPointContent
    exact Post.ite (Post.bind fun _ => Post.bind fun _ => Post.pure rfl) Post.fail
  case pointM =>
    unfold readPointContent
    exact Post.ite (Post.bind fun _ => Post.bind fun _ => Post.bind fun _ => Post.pure rfl) Post.fail
  case pointZ =>
    unfold readPointContent
    exact Post.ite (Post.bind fun _ => Post.bind fun _ => Post.bind fun _ => Post.pure rfl)
      (Post.ite (Post.bind fun _ => Post.bind fun _ => Post.bind fun _ => Post.bind fun _ => Post.pure rfl) Post.fail)
  case multipoint | multipointM | multipointZ =>
    unfold readMultipointContent
    exact Post.bind fun _ => Post.bind fun _ => Post.ite Post.fail (Post.bind fun _ => Post.bind fun _ => Post.pure rfl)
  case polyline | polylineM | polylineZ | polygon | polygonM | polygonZ =>
    exact Post.bind fun _ => Post.pure rfl
  case multipatch =>
    unfold readMultipatchContent
    exact Post.bind fun _ => Post.ite Post.fail (Post.bind fun _ => Post.bind fun _ => Post.bind fun _ => Post.pure rfl)

theorem readShape_shapetype (o : Orient) (rs : Int) (bs : Bytes) (s : Shape) (rest : Bytes)
    (h : readShape o rs bs = .ok s rest) :
    ∃ t r, readShapeType bs = .ok t r ∧ s.shapetype = t := by
  rw [readShape_eq] at h
  obtain ⟨t, r, ht, h2⟩ := bind_ok h
  obtain ⟨rs', r2, _, h3⟩ := bind_ok h2
  exact ⟨t, r, ht, readContentOf_shapetype o t rs' r2 s rest h3⟩

theorem typed_read_eq_convert (o : Orient) (S : ShapeType) (rs : Int) (bs : Bytes) (s : Shape) (rest : Bytes)
    (h : readShape o rs bs = .ok s rest) :
    readShapeAs o S rs bs =
      (match tryInto S s with
       | .ok s' => .ok s' rest
       | .error e => .err e) := by
  -- both reads decode the type `t` and run a type's reader on the same bytes: that of `t`, resp. of `S` if `t = S`
  rw [readShape_eq] at h
  obtain ⟨t, r, ht, h2⟩ := bind_ok h
  obtain ⟨rs', r2, hsub, h3⟩ := bind_ok h2
  have hst := readContentOf_shapetype o t rs' r2 s rest h3
  rw [readShapeAs, bind_of_ok ht, bind_of_ok hsub]
  by_cases hts : t = S
  · rw [if_pos hts, ← hts, h3, ← hst, tryInto_self]
  · rw [if_neg hts, tryInto_other S s (hst ▸ hts), hst]
    rfl

/-- MAIN: whenever the generic read of a record succeeds, the read as concrete type `S` returns
exactly the generic result converted to `S`: the same shape when the record's type is `S`, and
otherwise the mismatch error naming `S` as requested and the record's type as actual — never a
value of another type. -/
theorem typed_read_eq_generic_then_convert (o : Orient) (S : ShapeType) (hS : S ≠ .nullShape)
    (rs : Int) (bs : Bytes) (s : Shape) (rest : Bytes) (h : readShape o rs bs = .ok s rest) :
    readShapeAs o S rs bs =
      (match tryInto S s with
       | .ok s' => .ok s' rest
       | .error e => .err e) :=
  -- `hS` is not needed: the crate has no concrete null type, the model gives it the reader that returns `.null`
  typed_read_eq_convert o S rs bs s rest h

theorem typed_read_type (o : Orient) (S : ShapeType) (rs : Int) :
    Post (readShapeAs o S rs) (fun s => s.shapetype = S) := by
  unfold readShapeAs
  exact Post.bind fun t => Post.bind fun rs' => Post.ite (readContentOf_shapetype o S rs') Post.fail

theorem convertAll_cons_ok {S : ShapeType} {s : Shape} (h : s.shapetype = S) (rest : List Shape) :
    convertAll S (s :: rest) = (convertAll S rest).map (s :: ·) := by
  rw [convertAll, tryInto, if_pos h]
  cases convertAll S rest <;> rfl

theorem convertAll_cons_err {S : ShapeType} {s : Shape} (h : s.shapetype ≠ S) (rest : List Shape) :
    convertAll S (s :: rest) = .error (.mismatch S s.shapetype) := by
  rw [convertAll, tryInto, if_neg h]

theorem convertAll_ok_iff (S : ShapeType) (ss : List Shape) :
    convertAll S ss = .ok ss ↔ ∀ s ∈ ss, s.shapetype = S := by
  induction ss with
  | nil => simp [convertAll]
  | cons s rest ih =>
    rw [List.forall_mem_cons, ← ih]
    by_cases hs : s.shapetype = S
    · rw [convertAll_cons_ok hs]
      cases convertAll S rest <;> simp [Except.map, hs]
    · simp [convertAll_cons_err hs, hs]

theorem convertAll_first_mismatch (S : ShapeType) (pre : List Shape) (bad : Shape) (post : List Shape)
    (hpre : ∀ s ∈ pre, s.shapetype = S) (hbad : bad.shapetype ≠ S) :
    convertAll S (pre ++ bad :: post) = .error (.mismatch S bad.shapetype) := by
  induction pre with
  | nil => exact convertAll_cons_err hbad post
  | cons s rest ih =>
    rw [List.forall_mem_cons] at hpre
    rw [List.cons_append, convertAll_cons_ok hpre.1, ih hpre.2]
    rfl

/-- non-vacuity: a MultipointZ value reports MultipointZ -/
example : (Shape.multipoint .xyzm BBox.default []).shapetype = .multipointZ := rfl
example : tryInto .polyline (Shape.point .xy Pt.default) = .error (.mismatch .polyline .point) := by
  simp [tryInto, Shape.shapetype, Shape.variant, Variant.shapetype]

/-- a file without records (the header declares no more than its own 50 words) read under ANY
target, whatever type the header names, is the empty list: the header's type is not consulted -/
theorem empty_file_any_target (o : Orient) (tg : Target) (shp : Bytes) (h : Header) (rest : Bytes)
    (hh : readHeader shp = .ok h rest) (hl : h.fileLength ≤ 50) :
    readAll o tg shp none = .ok [] := by
  have hf : ((wordsToBytes h.fileLength).getD 0).toNat ≤ 100 := by
    unfold wordsToBytes
    split <;> simp <;> omega
  -- the state is spelled out: left to unification it is found only after running the reader
  rw [readAll, RState.open_none hh]
  exact congrArg (collectShapes ·.2)
    (RState.iterAll_seq_done (st := ⟨shp, 100, h, none, some 100, 0⟩) rfl rfl hf _)

end Shp.C06
