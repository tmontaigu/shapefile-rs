/-
C02 (decoder side) — an independent STRICT validator accepts every written .shp and recovers the
geometry handed to the writer.

`Shp.Spec.decodeFile` is the strict whitepaper decoder (file code 9994, five zero words, length
field = real length, version 1000, a legal type, records numbered 1..n without gaps, content
lengths exact, every block of the record's type present, nothing left over).  It inverts the
whitepaper encoder on every strict file value (`Spec.decodeFile_encodeFile`); compose with
`C02.written_shp_is_whitepaper_encoding`.
-/
import Shp.Lemmas.SpecFile
import Shp.Props.C02
namespace Shp.C02
open Shp Spec

/-- the format's own limit: the file length fits the header's length field (16-bit words in an i32) -/
def Fits (ss : List Shape) : Prop := 100 + 2 * totalWords ss < 4294967296

theorem bits_ok (f : F64) : Ok64 (bits f) := by
  unfold Ok64 bits; exact f.bits.toNat_lt

theorem toV_ok (p : Pt) : p.toV.Ok := ⟨bits_ok _, bits_ok _, bits_ok _, bits_ok _⟩

theorem parts_ok (parts : List (List Pt)) : ∀ v ∈ (parts.map (List.map Pt.toV)).flatten, v.Ok := by
  simp only [List.mem_flatten, List.mem_map]
  rintro v ⟨_, ⟨p, _, rfl⟩, hv⟩
  obtain ⟨q, _, rfl⟩ := List.mem_map.mp hv
  exact toV_ok q

theorem total_toV (parts : List (List Pt)) : total (parts.map (List.map Pt.toV)) = totalPoints parts :=
  congrArg List.sum (map_length_map Pt.toV parts)

theorem bits_all_ok (fs : List F64) : ∀ x ∈ fs.map bits, Ok64 x := by
  intro x hx
  obtain ⟨f, _, rfl⟩ := List.mem_map.mp hx
  exact bits_ok f

theorem boxed_strict (k : Nat) (hk : k < 2147483648) (s : Shape) (hsz : s.sizeInBytes < 4294967296) (b : BBox)
    {z m : Bool} {fam : Nat} (kinds : List Nat)
    (hi : typeInfo s.writeType.code.toNat = some (z, m, fam)) (hf : 2 ≤ fam)
    (h2 : fam = 2 → s.parts.length = 1) (h5 : fam = 5 → kinds.length = s.parts.length ∧ ∀ k ∈ kinds, k ≤ 5) :
    Rec.Strict s.writeType.code.toNat
      { number := k, typeCode := s.writeType.code.toNat,
        box := [bits b.min.x, bits b.min.y, bits b.max.x, bits b.max.y],
        zRange := (bits b.min.z, bits b.max.z), mRange := (bits b.min.m, bits b.max.m),
        parts := s.parts.map (List.map Pt.toV), kinds := kinds } := by
  have hsize := s.size_ge
  obtain ⟨n, rfl⟩ : ∃ n, fam = n + 2 := ⟨fam - 2, by omega⟩
  refine ⟨InI32.of_nat hk, Or.inl rfl, ?_⟩
  simp only [hi, List.length_map, total_toV]
  exact ⟨rfl, bits_all_ok [b.min.x, b.min.y, b.max.x, b.max.y], parts_ok _, ⟨bits_ok _, bits_ok _⟩, ⟨bits_ok _, bits_ok _⟩,
    fun _ => trivial, by omega, by omega, h2, h5⟩

theorem specRec_strict (k : Nat) (s : Shape) (hk : k < 2147483648) (hsz : s.sizeInBytes < 4294967296) :
    (specRec k s).Strict s.writeType.code.toNat := by
  have hkI := InI32.of_nat hk
  cases s with
  | null => exact ⟨hkI, Or.inl rfl, trivial⟩
  | point d p =>
    refine ⟨hkI, Or.inl rfl, ?_⟩
    simp only [specRec, typeInfo_point d p]
    exact ⟨rfl, rfl, by simp [toV_ok], trivial⟩
  | multipoint d b pts =>
    exact boxed_strict k hk _ hsz b [] (typeInfo_multipoint d b pts) (by omega) (fun _ => rfl) (by omega)
  | polyline d b parts =>
    exact boxed_strict k hk _ hsz b [] (typeInfo_polyline d b parts) (by omega) (by omega) (by omega)
  | polygon d b rings =>
    exact boxed_strict k hk _ hsz b [] (typeInfo_polygon d b rings) (by omega) (by omega) (by omega)
  | multipatch b patches =>
    refine boxed_strict k hk _ hsz b _ (fam := 5) rfl (by omega) (by omega) (fun _ => ⟨?_, ?_⟩)
    · simp [Shape.parts]
    · intro k hk
      obtain ⟨p, _, rfl⟩ := List.mem_map.mp hk
      cases p.1 <;> decide

theorem specRecs_strict (t : ShapeType) (k : Nat) (ss : List Shape) (hty : ∀ s ∈ ss, s.writeType = t)
    (hk : k + ss.length ≤ 2147483648) (hsz : ∀ s ∈ ss, s.sizeInBytes < 4294967296) :
    ∀ r ∈ specRecs k ss, r.Strict t.code.toNat := by
  induction ss generalizing k with
  | nil => simp [specRecs]
  | cons s ss ih =>
    intro r hr
    simp only [specRecs, List.mem_cons] at hr
    simp only [List.length_cons] at hk
    rcases hr with rfl | hr
    · have := specRec_strict k s (by omega) (hsz s List.mem_cons_self)
      rwa [hty s List.mem_cons_self] at this
    · exact ih (k + 1) (fun x hx => hty x (List.mem_cons_of_mem _ hx)) (by omega)
        (fun x hx => hsz x (List.mem_cons_of_mem _ hx)) r hr

theorem specRecs_numbered (k : Nat) (ss : List Shape) : Numbered k (specRecs k ss) := by
  induction ss generalizing k with
  | nil => trivial
  | cons s ss ih => exact ⟨specRec_number k s, ih (k + 1)⟩

theorem specFile_strict (ss : List Shape) (h : Homog ss) (hfit : Fits ss) : (specFile ss).Strict := by
  have hty := h.types
  let hd := (finalHeader ss).bbox
  unfold Fits at hfit
  have hlen := length_le_totalWords ss
  have hbody : ((specRecs 1 ss).flatMap Spec.encRecord).length = 2 * totalWords ss := by
    rw [← recordsFrom_spec _ 1 ss hty, recordsFrom_length]
  refine ⟨rfl, ?_, rfl, ?_, ?_, specRecs_numbered 1 ss, ?_⟩
  · exact typeInfo_code (fileTypeOf ss)
  · exact bits_all_ok [hd.min.x, hd.min.y, hd.max.x, hd.max.y, hd.min.z, hd.max.z, hd.min.m, hd.max.m]
  · exact specRecs_strict (fileTypeOf ss) 1 ss hty (by omega)
      (fun s hs => by have := size_le_totalWords ss s hs; omega)
  · show 100 + ((specRecs 1 ss).flatMap Spec.encRecord).length < 4294967296
    rw [hbody]; exact hfit

/-- MAIN (decoder side of C02): the strict whitepaper validator ACCEPTS the .shp the writer leaves
behind — for any type and any number of shapes within the format's size limit — and what it decodes
is the list of the shapes handed to the writer, numbered 1..n, in order. -/
theorem written_shp_is_accepted_by_strict_validator (ss : List Shape) (h : Homog ss) (hfit : Fits ss) :
    Spec.decodeFile (shpFile ss) = some (specFile ss).canon := by
  rw [written_shp_is_whitepaper_encoding ss h]
  exact decodeFile_encodeFile _ (specFile_strict ss h hfit)

theorem accepted_record_count (ss : List Shape) : (specFile ss).canon.records.length = ss.length := by
  have : ∀ k, (specRecs k ss).length = ss.length := by
    induction ss with
    | nil => intro k; rfl
    | cons s ss ih => intro k; simp [specRecs, ih]
  simp [File.canon, specFile, this]

/-- `canon` only drops what the type lacks: a multi-vertex record of a type with Z and M
(MultipointZ, PolylineZ, PolygonZ, Multipatch) is decoded to itself -/
theorem canon_id_zm (r : Rec) (fam : Nat) (hi : typeInfo r.typeCode = some (true, true, fam)) (hf : 2 ≤ fam)
    (hm : r.mPresent = true) (hk : fam ≠ 5 → r.kinds = []) : r.canon = r := by
  have hv : r.parts.map (List.map (V.canon true true)) = r.parts := by
    have : V.canon true true = id := funext fun v => rfl
    rw [this, List.map_id_fun, List.map_id]
  have hkinds : (if fam = 5 then r.kinds else []) = r.kinds := by
    split
    · rfl
    · exact (hk ‹_›).symm
  obtain ⟨n, rfl⟩ : ∃ n, fam = n + 2 := ⟨fam - 2, by omega⟩
  cases r
  simp only at hm
  simp only [Rec.canon, hi, hv, hkinds, if_true, hm]

/-- non-vacuity: a two-record PolylineZ file -/
example :
    let sh := Shape.polyline .xyzm BBox.default [[Pt.default, Pt.default], [Pt.default, Pt.default, Pt.default]]
    Homog [sh, sh] ∧ Fits [sh, sh] := by
  refine ⟨Homog.pair (by decide) rfl, by unfold Fits; decide⟩

end Shp.C02
