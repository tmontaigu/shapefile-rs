/-
C12 — destination I/O failures surface from the failing call; finalize is retryable.
Fault model: a destination fails after accepting n more bytes, at its k-th seek or at its k-th
flush (one-shot or persistent); a failing write still delivers the bytes accepted before it.
-/
import Shp.Lemmas.Faults
import Shp.Lemmas.History
namespace Shp.C12
open Shp

/-- a call whose plan hits a destination failure returns `Err(IoError)` — never `Ok`, and there is
no panic outcome at all in the writer — and only the pre-I/O state change is kept -/
theorem failing_call_returns_error (fw : FWorld) (c : WCall) (p : Plan) (hp : plan fw.w.st c = .ok p)
    (hf : (fw.runOps p.ops).2 = true) :
    (fw.call c).2 = .error .io ∧ (fw.call c).1.w.st = p.pre := by
  rw [FWorld.call_of_plan hp, if_pos hf]
  exact ⟨rfl, rfl⟩

theorem healthy_call_returns_ok (fw : FWorld) (c : WCall) (p : Plan) (hp : plan fw.w.st c = .ok p)
    (hf : (fw.runOps p.ops).2 = false) :
    (fw.call c).2 = .ok () ∧ (fw.call c).1.w.st = p.post := by
  rw [FWorld.call_of_plan hp, hf]
  exact ⟨rfl, rfl⟩

/-- with no fault planned the faulty world IS the healthy world -/
theorem runOps_no_fault (fw : FWorld) (ops : List (DestId × IOOp)) (h1 : fw.shpFault = .none) (h2 : fw.shxFault = .none) :
    (fw.runOps ops).2 = false ∧ (fw.runOps ops).1.w = ops.foldl World.applyOp fw.w ∧
    (fw.runOps ops).1.shpFault = .none ∧ (fw.runOps ops).1.shxFault = .none := by
  induction ops generalizing fw with
  | nil => exact ⟨rfl, rfl, h1, h2⟩
  | cons op rest ih =>
    obtain ⟨dest, o⟩ := op
    cases dest with
    | shp =>
      simp only [FWorld.runOps, h1, Dst.applyFaulty_none, Bool.false_eq_true, if_false, List.foldl_cons, World.applyOp]
      exact ih _ rfl h2
    | shx =>
      simp only [FWorld.runOps, h2, Dst.applyFaulty_none, Bool.false_eq_true, if_false, List.foldl_cons, World.applyOp]
      exact ih _ h1 rfl

theorem call_no_fault (fw : FWorld) (c : WCall) (h1 : fw.shpFault = .none) (h2 : fw.shxFault = .none) :
    (fw.call c).1.w = (fw.w.call c).1 ∧ (fw.call c).2 = (fw.w.call c).2 := by
  cases hp : plan fw.w.st c with
  | error e =>
    rw [FWorld.call_of_error hp, World.call_of_error hp]
    exact ⟨rfl, rfl⟩
  | ok p =>
    obtain ⟨hf, hw, _, _⟩ := runOps_no_fault fw p.ops h1 h2
    simp only [FWorld.call_of_plan hp, hf, World.call, hp, hw, Bool.false_eq_true, if_false]
    exact ⟨trivial, trivial⟩

/-- every prefix of finalize's operations on one destination — seek to 0, header, seek to end,
flush — with the header write cut anywhere, leaves the records in place -/
theorem finalize_prefix_mid (rest hdr : Bytes) (hl : hdr.length = 100) (d : Dst) (hm : Mid rest d) (k cut : Nat) :
    Mid rest (d.applyPrefix [.seekStart 0, .write hdr, .seekEnd, .flush] k cut) :=
  hm.crash_finalize hdr hl k cut

/-- rewriting the header over a header-sized region completes the file -/
theorem rewriteHeader_mid (d : Dst) (rest hdr : Bytes) (hm : Mid rest d) (hl : hdr.length = 100) :
    (rewriteHeader d hdr).data = hdr ++ rest := by
  rw [rewriteHeader_eq, hm.finalize hdr hl]

/-- MAIN (retry): from ANY state a failed finalize can leave, calling finalize again on working
destinations completes both files exactly as an undisturbed run would -/
theorem finalize_retry_completes (w : World) (ss : List Shape) (h : WInvW w ss) (hd : w.st.dirty = true) :
    (w.call .finalize).2 = .ok () ∧ (w.call .finalize).1.shp.data = shpFile ss ∧
    (w.st.hasShx = true → (w.call .finalize).1.shx.data = shxFile ss) := by
  rw [h.call_finalize hd]
  exact ⟨rfl, rfl, fun hx => by rw [if_pos hx]⟩

/-- MAIN (retry, continued): the retried finalize does not only complete the files, it restores the
writer's full invariant — positions at the end of both destinations included — so that ANY later
history (more shapes, more finalize calls, the drop) behaves exactly as on a writer that never saw a
failure: in particular a shape written after the retry is appended, not written over a record -/
theorem finalize_retry_restores_invariant (w : World) (ss : List Shape) (h : WInvW w ss) (hh : Homog ss)
    (hd : w.st.dirty = true) (hnx : w.st.hasShx = false → w.shx = Dst.empty) :
    WInv (w.call .finalize).1 ss :=
  h.finalize hh hd hnx

/-- after a failed finalize, a retry, and any further history, dropping the writer leaves the
complete files of everything accepted: the failure has left no trace -/
theorem retry_then_history (w : World) (ss : List Shape) (h : WInvW w ss) (hh : Homog ss)
    (hd : w.st.dirty = true) (hnx : w.st.hasShx = false → w.shx = Dst.empty)
    (cs : List WCall) (hcs : NonNullCalls cs) :
    (((w.call .finalize).1.run cs).drop).shp.data = shpFile (cs.foldl acceptStep ss) ∧
    (w.st.hasShx = true → (((w.call .finalize).1.run cs).drop).shx.data = shxFile (cs.foldl acceptStep ss)) := by
  have hrun := (h.finalize hh hd hnx).run cs hcs
  exact ⟨hrun.1.drop.1, fun hx => hrun.1.drop.2.1 ((hrun.2.trans (w.call_hasShx .finalize)).trans hx)⟩

/-- A `write_shape` that is not the first and is hit by a fault leaves the writer's state as it was
before the call (`failing_call_returns_error`) and, in each destination, some bytes appended behind
what it held (`Dst.runFaulty_prefix`: a part of the record, a part of the index entry).  From ANY
such world (`dirty` set) a finalize on working destinations writes the header of the shapes accepted
so far: the files are those of the accepted shapes followed by the leftover bytes, which lie beyond
the length the headers declare — a reader does not see them (C03, C04). -/
theorem failed_write_then_finalize (w : World) (ss : List Shape) (h : WInv w ss) (hne : ss ≠ [])
    (hd : w.st.dirty = true) (junkShp junkShx : Bytes) :
    let w' : World := { w with shp := ⟨w.shp.data ++ junkShp, w.shp.data.length + junkShp.length⟩,
                               shx := ⟨w.shx.data ++ junkShx, w.shx.data.length + junkShx.length⟩ }
    (w'.call .finalize).2 = .ok () ∧
    (w'.call .finalize).1.shp.data = shpFile ss ++ junkShp ∧
    (w.st.hasShx = true → (w'.call .finalize).1.shx.data = shxFile ss ++ junkShx) := by
  intro w'
  rw [call_finalize_dirty w' hd]
  refine ⟨rfl, ?_, fun hx => ?_⟩
  · show (w'.shp.applyAll (finalizeOps (w.st.finalHeader .shp).enc)).data = _
    rw [((h.holds .shp rfl).mid_append hne junkShp rfl).finalize _ (Header.enc_length _), h.toW.finalHeader_eq]
    exact (List.append_assoc ..).symm
  · show (if w.st.hasShx then w'.shx.applyAll (finalizeOps (w.st.finalHeader .shx).enc) else w'.shx).data = _
    rw [if_pos hx, ((h.holds .shx hx).mid_append hne junkShx rfl).finalize _ (Header.enc_length _), h.toW.finalShxHeader_eq]
    exact (List.append_assoc ..).symm

/-- within the length its header declares, the .shp after a failed write and a finalize IS the file
of the accepted shapes -/
theorem failed_write_then_finalize_declared (w : World) (ss : List Shape) (h : WInv w ss) (hne : ss ≠ [])
    (hd : w.st.dirty = true) (junkShp junkShx : Bytes) :
    let w' : World := { w with shp := ⟨w.shp.data ++ junkShp, w.shp.data.length + junkShp.length⟩,
                               shx := ⟨w.shx.data ++ junkShx, w.shx.data.length + junkShx.length⟩ }
    ((w'.call .finalize).1.shp.data).take (shpFile ss).length = shpFile ss := by
  intro w'
  rw [(failed_write_then_finalize w ss h hne hd junkShp junkShx).2.1, List.take_left]

/-- MAIN (what a finalize under ANY fault plan leaves): the writer's state facts and, in each
destination, the records behind a header-sized region — exactly the hypothesis of the retry -/
theorem finalize_under_faults (fw : FWorld) (ss : List Shape) (h : WInv fw.w ss) (hd : fw.w.st.dirty = true) :
    WInvW (fw.call .finalize).1.w ss ∧
    ((fw.call .finalize).2 ≠ .ok () → (fw.call .finalize).1.w.st.dirty = true) := by
  have hw := h.toW
  obtain ⟨x, hx, hrun⟩ := fw.runOps_shp_then_shx (finalizeOps (fw.w.st.finalHeader .shp).enc)
    (if fw.w.st.hasShx then finalizeOps (fw.w.st.finalHeader .shx).enc else [])
  have hshp := hw.shp.runFaulty_finalizeOps _ (Header.enc_length (fw.w.st.finalHeader .shp)) fw.shpFault fw.persistent
  have hshx : fw.w.st.hasShx = true → Mid (entriesFrom 50 ss) x := by
    intro hs
    rcases hx with rfl | rfl
    · exact hw.shx hs
    · rw [if_pos hs]; exact (hw.shx hs).runFaulty_finalizeOps _ (Header.enc_length _) _ _
  -- the call keeps the destinations of the run and sets the state to `pre` or to `post`: the
  -- state of before, up to `dirty`, which `WInvW` does not read
  have hinv : ∀ st : WState, st.recNum = fw.w.st.recNum → st.header = fw.w.st.header → st.hasShx = fw.w.st.hasShx →
      WInvW ⟨st, _, x⟩ ss := fun st hr hh hs =>
    ⟨hr ▸ hw.recNum, hh ▸ hw.fileLength, hh ▸ hw.version, hh ▸ hw.shapeType, hh ▸ hw.bbox, hshp,
      fun h => hshx (hs ▸ h)⟩
  rw [FWorld.call_of_plan (p := planFinalize fw.w.st) rfl, planFinalize_dirty hd]
  generalize fw.runOps _ = r at hrun ⊢
  cases r.2
  · simp only [Bool.false_eq_true, if_false, hrun]
    exact ⟨hinv _ rfl rfl rfl, fun hne => absurd rfl hne⟩
  · simp only [if_true, hrun]
    exact ⟨hinv _ rfl rfl rfl, fun _ => hd⟩

/-- non-vacuity: a writer holding only the first 37 bytes of a header (finalize failed mid-header
on an empty destination) is such a state -/
example : Mid [] ⟨List.replicate 37 0, 37⟩ := ⟨List.replicate 37 0, by simp, fun _ => rfl, by simp⟩

end Shp.C12
