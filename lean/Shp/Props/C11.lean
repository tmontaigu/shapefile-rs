/-
C11 — a crash at any point of writing never makes a reader see a wrong shape.
What a crash persists is, per destination, the state after a PREFIX of the operations issued to it
with the last write possibly cut (`Dst.runFaulty_prefix`, `Dst.applyPrefix`).  For the .shp that is
a header-sized region — any mixture of old and new header bytes — followed by a byte-prefix of the
record stream (`Mid.crash_finalize` for finalize, `Dst.Holds.crash_writeOps` for write_shape).  The theorems below
show that reading ANY such file yields an error or a prefix of the written shapes.
-/
import Shp.Props.C12
import Shp.Props.C04
import Shp.Lemmas.Crash
import Shp.Lemmas.Stream
namespace Shp.C11
open Shp Dec C12

/-- the verdict on a reader's outputs: the first `j` written shapes as read back, then at most one
I/O error -/
def PrefixThenError (o : Orient) (ss : List Shape) (outs : List ROut) : Prop :=
  ∃ j, j ≤ ss.length ∧
    (outs = (ss.take j).map (fun s => ROut.shape (s.readBack o)) ∨
     outs = (ss.take j).map (fun s => ROut.shape (s.readBack o)) ++ [ROut.err .io])

theorem PrefixThenError.nil (o : Orient) (ss : List Shape) : PrefixThenError o ss [] := ⟨0, Nat.zero_le _, .inl rfl⟩
theorem PrefixThenError.io (o : Orient) (ss : List Shape) : PrefixThenError o ss [.err .io] := ⟨0, Nat.zero_le _, .inr rfl⟩
theorem PrefixThenError.cons {o : Orient} {s : Shape} {ss : List Shape} {outs : List ROut} (h : PrefixThenError o ss outs) :
    PrefixThenError o (s :: ss) (.shape (s.readBack o) :: outs) := by
  obtain ⟨j, hj, h⟩ := h
  refine ⟨j + 1, Nat.succ_le_succ hj, ?_⟩
  rcases h with rfl | rfl
  · exact .inl rfl
  · exact .inr rfl

theorem PrefixThenError.take {o : Orient} {ss : List Shape} {outs : List ROut} (h : PrefixThenError o ss outs) (n : Nat) :
    PrefixThenError o ss (outs.take n) := by
  obtain ⟨j, hj, h⟩ := h
  by_cases hn : n ≤ j
  · refine ⟨n, by omega, .inl ?_⟩
    rcases h with rfl | rfl
    · rw [← List.map_take, List.take_take, Nat.min_eq_left hn]
    · rw [List.take_append_of_le_length (by simp; omega), ← List.map_take, List.take_take, Nat.min_eq_left hn]
  · rw [List.take_of_length_le (by rcases h with rfl | rfl <;> simp <;> omega)]
    exact ⟨j, hj, h⟩

theorem seqOuts_prefixThenError (o : Orient) (D p : Nat) (ss : List Shape) (avail : Nat) :
    PrefixThenError o ss (seqOuts o D p ss avail) := by
  induction ss generalizing p avail with
  | nil =>
    unfold seqOuts
    split
    · exact .nil o _
    · exact .io o _
  | cons s ss ih =>
    unfold seqOuts
    split
    · exact .nil o _
    · split
      · exact (ih _ _).cons
      · exact .io o _

theorem crashed_atStream (o : Orient) (tg : Target) {t : ShapeType} {ss : List Shape} {k avail : Nat} {st : RState}
    (fuel : Nat) (h : AtStream t k ss avail st) (hok : ∀ s ∈ ss, RecOK tg t s) (hk : k + ss.length < 2147483648) :
    PrefixThenError o ss (st.iterAll o tg fuel).2 := by
  rw [iterAll_stream o tg t ss k avail fuel st hok hk h]
  exact (seqOuts_prefixThenError o _ _ ss avail).take fuel

/-- MAIN (sequential reading of a crashed .shp): whatever length the (possibly half-rewritten)
header declares — too small, too large, negative — and wherever the record stream was cut, the
reader yields a prefix of the written shapes, in order, each equal to the original as read back,
optionally followed by one I/O error; never another shape, never a reordered one. -/
theorem crashed_stream (o : Orient) (tg : Target) (t : ShapeType) (ss : List Shape) (k avail fuel : Nat)
    (st : RState)
    (hsz : ∀ s ∈ ss, s.Sized) (hnn : ∀ s ∈ ss, s ≠ .null) (hty : ∀ s ∈ ss, s.writeType = t)
    (hacc : ∀ s ∈ ss, tg.Accepts s.writeType) (hk : k + ss.length < 2147483648)
    (hidx : st.index = none) (hpos : st.currentPos = some st.srcPos)
    (hdata : st.data.drop st.srcPos = (recordsFrom t k ss).take avail) (hlen : st.srcPos ≤ st.data.length) :
    PrefixThenError o ss (st.iterAll o tg fuel).2 :=
  crashed_atStream o tg fuel ⟨hidx, hpos, hdata⟩ (RecOK.of hsz hty hacc) hk

/-- what every prefix of a `write_shape`'s operations (after the first one) persists in the .shp:
the file as it was, followed by the first bytes of the new record -/
theorem write_prefix_persisted (d : Dst) (rec_ : Bytes) (hpos : d.pos = d.data.length) (k cut : Nat) :
    ∃ c, (d.applyPrefix [.write rec_] k cut).data = d.data ++ rec_.take c :=
  d.applyPrefix_append_end rec_ hpos k cut

/-- the complete file a finished finalize leaves (C09) reads back whole whatever bytes follow it
(`C04.read_without_index`); that it survives later calls and a crash is `durable_global` -/
theorem finalized_prefix_readable (o : Orient) (tg : Target) (ss : List Shape) (hok : FileOK tg ss) (extra : Bytes) :
    readAll o tg (shpFile ss ++ extra) none = .ok (ss.map (Shape.readBack o)) :=
  C04.read_without_index o tg ss hok extra

/-- every prefix of "header at offset 0, then a first chunk" over an empty or header-only
destination leaves a header-sized region followed by a prefix of the chunk -/
theorem first_write_prefix (d : Dst) (hdr chunk : Bytes) (hh : d.data.length = 100 ∨ d.data = [])
    (hl : hdr.length = 100) (k cut : Nat) :
    ∃ n, C12.Mid (chunk.take n) (d.applyPrefix [.seekStart 0, .write hdr, .write chunk] k cut) := by
  have hm : C12.Mid [] d := ⟨d.data, by rcases hh with h | h <;> simp [h], fun _ => rfl, by simp⟩
  exact hm.crash_first hdr chunk hl k cut

/-- what a crash during a call persists in a destination: the cases of `WInv.call_ops`, each cut
anywhere -/
theorem crash_call {w : World} {ss : List Shape} (h : WInv w ss) (d : DestId) (hd : w.st.has d = true)
    (c : WCall) (k cut : Nat) :
    ∃ n, C12.Mid ((bodyOf d (acceptStep ss c)).take n) ((w.dst d).applyPrefix (callOps d w c) k cut) := by
  have hm := h.mid d hd
  rcases h.call_ops c d hd with ⟨ha, ho⟩ | ⟨ha, ho⟩ | ⟨s, hs, ha, ho⟩ <;> rw [ha, ho]
  · rw [Dst.applyPrefix_nil]
    exact hm.exists_take
  · exact (hm.crash_finalize _ (Header.enc_length _) k cut).exists_take
  · rw [h.body_accept hs]
    exact (h.holds d hd).crash_writeOps h.null_iff (bodyOf_nil d) _ _ (Header.enc_length _) k cut

/-- MAIN (what a crash persists in the .shp): the writer is in ANY reachable state (`WInv`), a call
is under way, and the .shp destination received an arbitrary prefix of that call's operations, the
last write possibly cut.  Then the destination holds a header-sized region (any mixture of old and
new header bytes, or nothing yet) followed by a byte-prefix of the record stream of the shapes
accepted up to and including this call. -/
theorem crash_during_call_shp {w : World} {ss : List Shape} (h : WInv w ss) (c : WCall)
    (hc : c ≠ .writeShape .null) (p : Plan) (hp : plan w.st c = .ok p) (k cut : Nat) :
    ∃ n, C12.Mid ((recordsFrom (fileTypeOf (acceptStep ss c)) 1 (acceptStep ss c)).take n)
      (w.shp.applyPrefix (opsFor .shp p.ops) k cut) := by
  rw [← callOps_of_plan hp]
  exact crash_call h .shp rfl c k cut

/-- MAIN (what a crash persists in the .shx): as `crash_during_call_shp`, for the index file -/
theorem crash_during_call_shx {w : World} {ss : List Shape} (h : WInv w ss) (hx : w.st.hasShx = true) (c : WCall)
    (hc : c ≠ .writeShape .null) (p : Plan) (hp : plan w.st c = .ok p) (k cut : Nat) :
    ∃ n, C12.Mid ((entriesFrom 50 (acceptStep ss c)).take n) (w.shx.applyPrefix (opsFor .shx p.ops) k cut) := by
  rw [← callOps_of_plan hp]
  exact crash_call h .shx hx c k cut

theorem crashed_file_of_recOK (o : Orient) (tg : Target) {t : ShapeType} {ss : List Shape} {n : Nat} {d : Dst}
    (hm : C12.Mid ((recordsFrom t 1 ss).take n) d) (hok : ∀ s ∈ ss, RecOK tg t s) (hk : 1 + ss.length < 2147483648) :
    (∀ e, RState.open d.data none = .error e → ∃ er, e = .err er) ∧
    (∀ st, RState.open d.data none = .ok st → ∀ fuel, PrefixThenError o ss (st.iterAll o tg fuel).2) := by
  refine ⟨fun e he => RState.open_error he, fun st hst fuel => ?_⟩
  obtain ⟨hd, r, hr, rfl⟩ := RState.open_none_ok hst
  exact crashed_atStream o tg fuel ⟨rfl, rfl, hm.drop⟩ hok hk

/-- MAIN (reading what a crash persisted): a .shp consisting of a header-sized region with
ARBITRARY content followed by any byte-prefix of the record stream of `ss` either fails to open
with an error, or opens and yields a prefix of `ss` — in order, each shape equal to the original
as read back — optionally followed by one I/O error.  Never a panic, never another shape. -/
theorem crashed_file (o : Orient) (tg : Target) (t : ShapeType) (ss : List Shape) (n : Nat) (d : Dst)
    (hm : C12.Mid ((recordsFrom t 1 ss).take n) d)
    (hsz : ∀ s ∈ ss, s.Sized) (hnn : ∀ s ∈ ss, s ≠ .null) (hty : ∀ s ∈ ss, s.writeType = t)
    (hacc : ∀ s ∈ ss, tg.Accepts s.writeType) (hk : 1 + ss.length < 2147483648) :
    (∀ e, RState.open d.data none = .error e → ∃ er, e = .err er) ∧
    (∀ st, RState.open d.data none = .ok st → ∀ fuel, PrefixThenError o ss (st.iterAll o tg fuel).2) :=
  crashed_file_of_recOK o tg hm (RecOK.of hsz hty hacc) hk

/-- MAIN (end to end, no index): after ANY history of calls, a crash at ANY point of the next call
— the .shp holding an arbitrary prefix of that call's operations, the last write cut anywhere —
leaves a file that a reader either refuses with an error or reads as a prefix of the shapes
accepted so far (this call's included), each equal to the original, then at most one I/O error. -/
theorem crash_anywhere (o : Orient) (tg : Target) (hasShx : Bool) (cs : List WCall) (c : WCall) (p : Plan)
    (k cut : Nat) (hcs : NonNullCalls (cs ++ [c]))
    (hp : plan ((World.init hasShx).run cs).st c = .ok p)
    (hok : FileOK tg (acceptedOf (cs ++ [c]))) :
    (∀ e, RState.open ((((World.init hasShx).run cs).shp.applyPrefix (opsFor .shp p.ops) k cut).data) none = .error e →
        ∃ er, e = .err er) ∧
    (∀ st, RState.open ((((World.init hasShx).run cs).shp.applyPrefix (opsFor .shp p.ops) k cut).data) none = .ok st →
        ∀ fuel, PrefixThenError o (acceptedOf (cs ++ [c])) (st.iterAll o tg fuel).2) := by
  obtain ⟨n, hm⟩ := crash_call (WInv.reachable hasShx cs hcs.left) .shp rfl c k cut
  rw [callOps_of_plan hp] at hm
  rw [acceptedOf_concat] at hok ⊢
  exact crashed_file_of_recOK o tg hm hok.recOK hok.count

/-- MAIN (reading a crashed PAIR through its index): the .shp holds a header-sized region of
arbitrary content and any byte-prefix of the record stream of `ss`; the .shx a header-sized region of
arbitrary content (so: ANY declared length) and any byte-prefix of the entries of `ss`.  Opening
fails with an error, or every item the iterator yields and every `read_nth_shape(i)` is the shape
that was written at that position (as read back) or an I/O error — never another shape, never a
panic. -/
theorem crashed_pair (o : Orient) (tg : Target) (t : ShapeType) (ss : List Shape) (n m : Nat) (dshp dshx : Dst)
    (hm : C12.Mid ((recordsFrom t 1 ss).take n) dshp) (hx : C12.Mid ((entriesFrom 50 ss).take m) dshx)
    (hsz : ∀ s ∈ ss, s.Sized) (hnn : ∀ s ∈ ss, s ≠ .null) (hty : ∀ s ∈ ss, s.writeType = t)
    (hacc : ∀ s ∈ ss, tg.Accepts s.writeType) (htot : 50 + totalWords ss < 2147483648) :
    (∀ e, RState.open dshp.data (some dshx.data) = .error e → ∃ er, e = .err er) ∧
    (∀ st, RState.open dshp.data (some dshx.data) = .ok st →
      (∀ fuel, Faithful (ss.map (Shape.readBack o)) (st.iterAll o tg fuel).2) ∧
      (∀ i, (st.readNth o tg i).2 = .none ∨ (st.readNth o tg i).2 = .err .io ∨
        (∃ hi : i < (ss.map (Shape.readBack o)).length, (st.readNth o tg i).2 = .shape (ss.map (Shape.readBack o))[i]))) :=
  crashed_pair_of_recOK o tg hm hx (RecOK.of hsz hty hacc) htot

/-- MAIN (end to end, with the index): after ANY history of calls, a crash at ANY point of the next
call — each destination holding its own arbitrary prefix of that call's operations, the last write
cut anywhere, the two files in no particular relation to each other — leaves a pair that a reader
refuses with an error, or reads position by position as the shape written there or an I/O error. -/
theorem crash_anywhere_pair (o : Orient) (tg : Target) (cs : List WCall) (c : WCall) (p : Plan)
    (k1 cut1 k2 cut2 : Nat) (hcs : NonNullCalls (cs ++ [c]))
    (hp : plan ((World.init true).run cs).st c = .ok p)
    (hok : FileOK tg (acceptedOf (cs ++ [c]))) :
    (∀ e, RState.open ((((World.init true).run cs).shp.applyPrefix (opsFor .shp p.ops) k1 cut1).data)
        (some (((World.init true).run cs).shx.applyPrefix (opsFor .shx p.ops) k2 cut2).data) = .error e → ∃ er, e = .err er) ∧
    (∀ st, RState.open ((((World.init true).run cs).shp.applyPrefix (opsFor .shp p.ops) k1 cut1).data)
        (some (((World.init true).run cs).shx.applyPrefix (opsFor .shx p.ops) k2 cut2).data) = .ok st →
      (∀ fuel, Faithful ((acceptedOf (cs ++ [c])).map (Shape.readBack o)) (st.iterAll o tg fuel).2) ∧
      (∀ i, (st.readNth o tg i).2 = .none ∨ (st.readNth o tg i).2 = .err .io ∨
        (∃ hi : i < ((acceptedOf (cs ++ [c])).map (Shape.readBack o)).length,
          (st.readNth o tg i).2 = .shape ((acceptedOf (cs ++ [c])).map (Shape.readBack o))[i]))) := by
  have hrun := WInv.reachable true cs hcs.left
  obtain ⟨n, hm⟩ := crash_call hrun .shp rfl c k1 cut1
  obtain ⟨m, hmx⟩ := crash_call hrun .shx (World.run_hasShx _ cs) c k2 cut2
  rw [callOps_of_plan hp] at hm hmx
  rw [acceptedOf_concat] at hok ⊢
  exact crashed_pair_of_recOK o tg hm hmx hok.recOK hok.total

/-- all the operations a history of calls issues to one destination, in order (what the harness's
logging destinations record) -/
def histOps (d : DestId) (w : World) : List WCall → List IOOp
  | [] => []
  | c :: cs =>
    (match plan w.st c with
     | .ok p => opsFor d p.ops
     | .error _ => []) ++ histOps d (w.call c).1 cs

theorem histOps_cons (d : DestId) (w : World) (c : WCall) (cs : List WCall) :
    histOps d w (c :: cs) = callOps d w c ++ histOps d (w.call c).1 cs := rfl

theorem call_dests (w : World) (c : WCall) :
    (w.call c).1.shp = (match plan w.st c with | .ok p => opsFor .shp p.ops | .error _ => []).foldl Dst.apply w.shp ∧
    (w.call c).1.shx = (match plan w.st c with | .ok p => opsFor .shx p.ops | .error _ => []).foldl Dst.apply w.shx :=
  ⟨w.call_dst c .shp, w.call_dst c .shx⟩

theorem Dst.applyPrefix_append (d : Dst) (ops1 ops2 : List IOOp) (k cut : Nat) :
    d.applyPrefix (ops1 ++ ops2) k cut =
      if k < ops1.length then d.applyPrefix ops1 k cut
      else (ops1.foldl Dst.apply d).applyPrefix ops2 (k - ops1.length) cut :=
  d.applyPrefix_append ops1 ops2 k cut

theorem take_eq_take_append (x y : Bytes) (n : Nat) : ∃ n', x.take n = (x ++ y).take n' :=
  ⟨min n x.length, by rw [List.take_append_of_le_length (Nat.min_le_right _ _), List.take_eq_take_min]⟩

theorem bodyOf_lift (d : DestId) (a b : List Shape) (n : Nat) : ∃ n', (bodyOf d a).take n = (bodyOf d (a ++ b)).take n' := by
  cases d
  · cases a with
    | nil => exact ⟨0, by rw [bodyOf_nil _ rfl, List.take_nil, List.take_zero]⟩
    | cons x xs =>
      simp only [bodyOf]
      rw [fileTypeOf_append _ b (List.cons_ne_nil x xs), recordsFrom_append]
      exact take_eq_take_append _ _ n
  · simp only [bodyOf]
    rw [entriesFrom_append]
    exact take_eq_take_append _ _ n

/-- a crash point of a history's operations on a destination: the state after the whole history, or
a crash point of a call `c` after the calls `cs1` before it (`more`: accepted behind `c`) -/
theorem histOps_crash (d : DestId) (w : World) (ss : List Shape) {cs : List WCall} (hcs : NonNullCalls cs) (k cut : Nat) :
    (w.dst d).applyPrefix (histOps d w cs) k cut = (w.run cs).dst d ∨
    ∃ cs1 c k' more, NonNullCalls cs1 ∧ cs.foldl acceptStep ss = acceptStep (cs1.foldl acceptStep ss) c ++ more ∧
      (w.dst d).applyPrefix (histOps d w cs) k cut = ((w.run cs1).dst d).applyPrefix (callOps d (w.run cs1) c) k' cut := by
  induction cs generalizing w ss k with
  | nil => exact .inl (Dst.applyPrefix_nil _ _ _)
  | cons c cs ih =>
    rw [histOps_cons, (w.dst d).applyPrefix_append]
    split
    · obtain ⟨more, hmore⟩ := foldl_acceptStep_prefix (acceptStep ss c) cs
      exact .inr ⟨[], c, k, more, fun _ h => absurd h List.not_mem_nil, hmore, rfl⟩
    · rw [← w.call_dst c d]
      rcases ih (w.call c).1 (acceptStep ss c) hcs.tail (k - (callOps d w c).length) with h | ⟨cs1, c', k', more, h1, hmore, h⟩
      · exact .inl h
      · exact .inr ⟨c :: cs1, c', k', more, List.forall_mem_cons.2 ⟨hcs c List.mem_cons_self, h1⟩, hmore, h⟩

/-- any crash point of the whole operation log of one destination: a crash point of one call
(`histOps_crash`, `crash_call`), and the body of what was accepted by then begins the body of what
the whole history accepts -/
theorem crash_global_dst {w : World} {ss : List Shape} (h : WInv w ss) (d : DestId) (hd : w.st.has d = true)
    (cs : List WCall) (hcs : NonNullCalls cs) (k cut : Nat) :
    ∃ n, C12.Mid ((bodyOf d (cs.foldl acceptStep ss)).take n) ((w.dst d).applyPrefix (histOps d w cs) k cut) := by
  rcases histOps_crash d w ss hcs k cut with e | ⟨cs1, c, k', more, hcs1, hmore, e⟩ <;> rw [e]
  · exact ((h.run cs hcs).1.mid d ((w.run_has cs d).trans hd)).exists_take
  · obtain ⟨n, hm⟩ := crash_call (h.run cs1 hcs1).1 d ((w.run_has cs1 d).trans hd) c k' cut
    obtain ⟨n', hn'⟩ := bodyOf_lift d (acceptStep (cs1.foldl acceptStep ss) c) more n
    exact ⟨n', by rw [hmore, ← hn']; exact hm⟩

/-- MAIN (any crash point of the whole .shp operation log): the writer in any reachable state, any
further history of calls, the .shp holding ANY prefix of all the operations that history issues to it
with the last write cut anywhere: a header-sized region followed by a byte-prefix of the record
stream of the shapes the history accepts. -/
theorem crash_global_shp {w : World} {ss : List Shape} (h : WInv w ss) (cs : List WCall) (hcs : NonNullCalls cs)
    (k cut : Nat) :
    ∃ n, C12.Mid ((recordsFrom (fileTypeOf (cs.foldl acceptStep ss)) 1 (cs.foldl acceptStep ss)).take n)
      (w.shp.applyPrefix (histOps .shp w cs) k cut) :=
  crash_global_dst h .shp rfl cs hcs k cut

/-- as `crash_global_shp`, for the index file -/
theorem crash_global_shx {w : World} {ss : List Shape} (h : WInv w ss) (hx : w.st.hasShx = true) (cs : List WCall)
    (hcs : NonNullCalls cs) (k cut : Nat) :
    ∃ n, C12.Mid ((entriesFrom 50 (cs.foldl acceptStep ss)).take n) (w.shx.applyPrefix (histOps .shx w cs) k cut) :=
  crash_global_dst h .shx hx cs hcs k cut

/-- MAIN (C11, end to end): ANY history of calls on a writer with an index, the two operation logs
cut INDEPENDENTLY at any operation and any byte.  A reader opened on what was persisted — with the
index or without — reports an error, or yields only shapes that were written, at their positions:
without the index a prefix of them then at most one I/O error; with it, position by position the
shape written there or an I/O error.  Never another shape, never a reordered one, never a panic. -/
theorem crash_global (o : Orient) (tg : Target) (cs : List WCall) (k1 cut1 k2 cut2 : Nat)
    (hcs : NonNullCalls cs) (hok : FileOK tg (acceptedOf cs)) :
    let shp := (Dst.empty.applyPrefix (histOps .shp (World.init true) cs) k1 cut1).data
    let shx := (Dst.empty.applyPrefix (histOps .shx (World.init true) cs) k2 cut2).data
    ((∀ e, RState.open shp none = .error e → ∃ er, e = .err er) ∧
     (∀ st, RState.open shp none = .ok st → ∀ fuel, PrefixThenError o (acceptedOf cs) (st.iterAll o tg fuel).2)) ∧
    ((∀ e, RState.open shp (some shx) = .error e → ∃ er, e = .err er) ∧
     (∀ st, RState.open shp (some shx) = .ok st →
       (∀ fuel, Faithful ((acceptedOf cs).map (Shape.readBack o)) (st.iterAll o tg fuel).2) ∧
       (∀ i, (st.readNth o tg i).2 = .none ∨ (st.readNth o tg i).2 = .err .io ∨
         (∃ hi : i < ((acceptedOf cs).map (Shape.readBack o)).length,
           (st.readNth o tg i).2 = .shape ((acceptedOf cs).map (Shape.readBack o))[i])))) := by
  intro shp shx
  obtain ⟨n, hm⟩ := crash_global_shp (WInv.init true) cs hcs k1 cut1
  obtain ⟨m, hmx⟩ := crash_global_shx (WInv.init true) rfl cs hcs k2 cut2
  exact ⟨crashed_file_of_recOK o tg hm hok.recOK hok.count, crashed_pair_of_recOK o tg hm hmx hok.recOK hok.total⟩

example (o : Orient) : PrefixThenError o [Shape.point .xy Pt.default] [ROut.err .io] :=
  ⟨0, by simp, Or.inr (by simp)⟩
example : Faithful [Shape.point .xy Pt.default, Shape.point .xy Pt.default]
    [ROut.shape (Shape.point .xy Pt.default), ROut.err .io] := ⟨Or.inl rfl, Or.inr rfl, trivial⟩
/-- the hypotheses of `crash_anywhere_pair` are met by a real history: one point written, crash
during the finalize that follows -/
example : NonNullCalls ([WCall.writeShape (Shape.point .xy Pt.default)] ++ [WCall.finalize]) ∧
    plan ((World.init true).run [WCall.writeShape (Shape.point .xy Pt.default)]).st .finalize =
      .ok (planFinalize ((World.init true).run [WCall.writeShape (Shape.point .xy Pt.default)]).st) :=
  ⟨by intro c hc; simp at hc; rcases hc with rfl | rfl <;> simp, rfl⟩

end Shp.C11
