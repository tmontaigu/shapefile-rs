/-
C02 — every written .shp is a well-formed ESRI shapefile.
Refinement: the bytes the model writer leaves are EXACTLY what the independent whitepaper encoder
(`Shp.Spec.encodeFile`, written from the ESRI description) emits for the geometry handed to the
writer; plus the framing facts stated directly.  (On the REAL writer's bytes the strict DECODER
is run, not proved: the oracle.)
-/
import Shp.Lemmas.SpecBridge
import Shp.Props.C04  -- C02's claim also cites `C04.written_files`
namespace Shp.C02
open Shp Spec

def bits (f : F64) : Nat := f.bits.toNat

/-- the geometry handed to the writer, as a whitepaper record -/
def specRec (num : Int) (s : Shape) : Rec :=
  match s with
  | .null => { number := num, typeCode := 0 }
  | .point _ p => { number := num, typeCode := s.writeType.code.toNat, parts := [[p.toV]] }
  | .multipoint _ b _ | .polyline _ b _ | .polygon _ b _ =>
    { number := num, typeCode := s.writeType.code.toNat,
      box := [bits b.min.x, bits b.min.y, bits b.max.x, bits b.max.y],
      zRange := (bits b.min.z, bits b.max.z), mRange := (bits b.min.m, bits b.max.m),
      parts := s.parts.map (List.map Pt.toV) }
  | .multipatch b patches =>
    { number := num, typeCode := 31,
      box := [bits b.min.x, bits b.min.y, bits b.max.x, bits b.max.y],
      zRange := (bits b.min.z, bits b.max.z), mRange := (bits b.min.m, bits b.max.m),
      parts := s.parts.map (List.map Pt.toV), kinds := patches.map fun p => p.1.code.toNat }

theorem bbox_of_bits (b : BBox) :
    (⟨⟨F64.ofNat (bits b.min.x), F64.ofNat (bits b.min.y), F64.ofNat (bits b.min.z), F64.ofNat (bits b.min.m)⟩,
      ⟨F64.ofNat (bits b.max.x), F64.ofNat (bits b.max.y), F64.ofNat (bits b.max.z), F64.ofNat (bits b.max.m)⟩⟩ : BBox) = b := by
  cases b with | mk mn mx => cases mn; cases mx; simp [bits, F64.ofNat_toNat]

theorem bbox_of_fields (r : Rec) (b : BBox) (h : r.box = [bits b.min.x, bits b.min.y, bits b.max.x, bits b.max.y])
    (hz : r.zRange = (bits b.min.z, bits b.max.z)) (hm : r.mRange = (bits b.min.m, bits b.max.m)) : r.bbox = b := by
  simp only [Rec.bbox, h, hz, hm, List.getD_cons_zero, List.getD_cons_succ, bbox_of_bits]

theorem code_toNat (t : ShapeType) : ((t.code.toNat : Nat) : Int) = t.code := by
  cases t <;> rfl

theorem specRec_number (num : Int) (s : Shape) : (specRec num s).number = num := by
  cases s <;> rfl

theorem specRec_typeCode (num : Int) (s : Shape) : ((specRec num s).typeCode : Int) = s.writeType.code := by
  rw [← code_toNat]
  cases s <;> rfl

theorem specRec_pparts (num : Int) (s : Shape) : (specRec num s).pparts = s.parts := by
  have := parts_toV_toPt s.parts
  cases s <;> exact this

theorem typeInfo_point (d : Dim) (p : Pt) :
    typeInfo (Shape.point d p).writeType.code.toNat = some (d.hasZ, d.hasM, 1) := by cases d <;> rfl
theorem typeInfo_multipoint (d : Dim) (b : BBox) (pts : List Pt) :
    typeInfo (Shape.multipoint d b pts).writeType.code.toNat = some (d.hasZ, d.hasM, 2) := by cases d <;> rfl
theorem typeInfo_polyline (d : Dim) (b : BBox) (parts : List (List Pt)) :
    typeInfo (Shape.polyline d b parts).writeType.code.toNat = some (d.hasZ, d.hasM, 3) := by cases d <;> rfl
theorem typeInfo_polygon (d : Dim) (b : BBox) (rings : List (Role × List Pt)) :
    typeInfo (Shape.polygon d b rings).writeType.code.toNat = some (d.hasZ, d.hasM, 4) := by cases d <;> rfl

theorem encContent_specRec (num : Int) (s : Shape) :
    encContent (specRec num s) = encI32LE s.writeType.code ++ s.encodeContent := by
  cases s with
  | null =>
    rw [encContent_of_null (z := false) (m := false) rfl, wrI32LE_eq]
    exact (List.append_nil _).symm
  | point d p =>
    rw [encContent_point _ _ _ (typeInfo_point d p) p.toV rfl, dimOf_has, specRec_typeCode, Pt.toV_toPt]
    simp [specRec, Shape.encodeContent, encPoint]
  | multipoint d b pts =>
    have hi := typeInfo_multipoint d b pts
    rw [encContent_multipoint _ _ _ hi rfl (pts.map Pt.toV) rfl (typeInfo_row hi).m_of_z, dimOf_has, specRec_typeCode,
      bbox_of_fields _ b rfl rfl rfl, map_toV_toPt]
    exact congrArg _ (encMultipoint_eq d b pts).symm
  | polyline d b parts =>
    have hi := typeInfo_polyline d b parts
    rw [encContent_multipart _ _ _ 3 hi (Or.inl rfl) rfl (typeInfo_row hi).m_of_z, dimOf_has, specRec_typeCode,
      bbox_of_fields _ b rfl rfl rfl, specRec_pparts]
    exact congrArg _ (encMultiPart_eq d b parts).symm
  | polygon d b rings =>
    have hi := typeInfo_polygon d b rings
    rw [encContent_multipart _ _ _ 4 hi (Or.inr rfl) rfl (typeInfo_row hi).m_of_z, dimOf_has, specRec_typeCode,
      bbox_of_fields _ b rfl rfl rfl, specRec_pparts]
    exact congrArg _ (encMultiPart_eq d b _).symm
  | multipatch b patches =>
    have hcode : ∀ k : PatchKind, ((k.code.toNat : Nat) : Int) = k.code := fun k => by cases k <;> rfl
    have hk : (specRec num (.multipatch b patches)).kinds.map (fun (k : Nat) => (k : Int)) = patches.map (·.1.code) := by
      simp only [specRec, List.map_map, Function.comp_def, hcode]
    rw [encContent_multipatch _ rfl rfl, bbox_of_fields _ b rfl rfl rfl, specRec_pparts, hk]
    simp only [Shape.encodeContent, encMultipatch_eq, encMultipatchOpt, List.append_assoc, Shape.parts, List.length_map]
    rfl

theorem encRecord_specRec (num : Int) (s : Shape) :
    Spec.encRecord (specRec num s) = Shp.encRecord num s.writeType s := by
  unfold Spec.encRecord Shp.encRecord recordSizeWords
  rw [encContent_specRec, specRec_number]
  simp only [wrI32BE_eq, List.length_append, encI32LE_length, Shape.encodeContent_length, List.append_assoc, Nat.add_comm 4]
  rfl

def specRecs (k : Nat) : List Shape → List Rec
  | [] => []
  | s :: ss => specRec k s :: specRecs (k + 1) ss

theorem recordsFrom_spec (t : ShapeType) (k : Nat) (ss : List Shape) (hty : ∀ s ∈ ss, s.writeType = t) :
    recordsFrom t k ss = (specRecs k ss).flatMap Spec.encRecord := by
  induction ss generalizing k with
  | nil => rfl
  | cons s ss ih =>
    have := hty s List.mem_cons_self
    simp only [recordsFrom, specRecs, List.flatMap_cons, encRecord_specRec, this]
    rw [ih (k + 1) (fun x hx => hty x (List.mem_cons_of_mem _ hx))]

def specFile (ss : List Shape) : File :=
  let h := finalHeader ss
  { typeCode := (fileTypeOf ss).code.toNat,
    box := [bits h.bbox.min.x, bits h.bbox.min.y, bits h.bbox.max.x, bits h.bbox.max.y,
            bits h.bbox.min.z, bits h.bbox.max.z, bits h.bbox.min.m, bits h.bbox.max.m],
    records := specRecs 1 ss }

/-- MAIN: the .shp the writer leaves behind is, byte for byte, the whitepaper encoding of the
shapes handed to it: records numbered 1..n in order, nothing before, between or after them. -/
theorem written_shp_is_whitepaper_encoding (ss : List Shape) (h : Homog ss) :
    shpFile ss = encodeFile (specFile ss) := by
  have hty := h.types
  have hlen : (((100 + 2 * totalWords ss) / 2 : Nat) : Int) = 50 + (totalWords ss : Int) := by omega
  unfold shpFile encodeFile specFile
  simp only [List.append_nil]
  rw [← recordsFrom_spec _ 1 ss hty, recordsFrom_length, encHeader_enc _ (fileTypeOf ss) (code_toNat _).symm, hlen, bbox_of_bits]
  rfl

/-- the header's length field (16-bit words) is the real byte length -/
theorem header_length_field (ss : List Shape) :
    2 * (finalHeader ss).fileLength = ((shpFile ss).length : Int) := by
  simp only [shpFile, List.length_append, Header.enc_length, recordsFrom_length, finalHeader]
  push_cast; omega

theorem header_fixed_fields (ss : List Shape) :
    (shpFile ss).take 24 = encI32BE 9994 ++ zeros 20 ∧
    ((shpFile ss).drop 28).take 8 = encI32LE 1000 ++ encI32LE (fileTypeOf ss).code := by
  obtain ⟨rest, h⟩ : ∃ rest, shpFile ss = (encI32BE 9994 ++ zeros 20) ++ (encI32BE (finalHeader ss).fileLength ++
      ((encI32LE 1000 ++ encI32LE (fileTypeOf ss).code) ++ rest)) :=
    ⟨_, by simp only [shpFile, Header.enc, List.append_assoc]; rfl⟩
  rw [h]
  refine ⟨List.take_left' rfl, ?_⟩
  rw [← List.append_assoc, List.drop_left' (by rfl : (encI32BE 9994 ++ zeros 20 ++ encI32BE _).length = 28)]
  exact List.take_left' rfl

theorem record_framing (num : Int) (t : ShapeType) (s : Shape) :
    ∃ content, Shp.encRecord num t s = encI32BE num ++ encI32BE ((content.length / 2 : Nat) : Int) ++ content ∧
      content = encI32LE t.code ++ s.encodeContent ∧ content.length % 2 = 0 := by
  refine ⟨encI32LE t.code ++ s.encodeContent, ?_, rfl, ?_⟩
  · unfold Shp.encRecord recordSizeWords
    simp only [List.length_append, encI32LE_length, Shape.encodeContent_length, List.append_assoc]
    rw [Nat.add_comm s.sizeInBytes 4]
  · have := s.size_plus_code_even
    simp only [List.length_append, encI32LE_length, Shape.encodeContent_length]; omega

example : Homog [Shape.point .xyzm Pt.default, Shape.point .xyzm Pt.default] :=
  Homog.pair (by decide) rfl

end Shp.C02
