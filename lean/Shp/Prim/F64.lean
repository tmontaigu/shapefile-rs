/-
IEEE-754 binary64 values as bit patterns.  The library moves doubles around and *compares*
them; the only float arithmetic is the shoelace sum (kept abstract: `Orient` in `Model/Decode`).
Comparison is modelled exactly on the bit pattern.
-/
import Shp.Prim.Bytes
import Shp.Gen.Tables
namespace Shp

structure F64 where
  bits : UInt64
  deriving DecidableEq, Repr, Inhabited

namespace F64

def ofNat (n : Nat) : F64 := ⟨UInt64.ofNat n⟩

/-- magnitude bits (exponent and fraction) -/
def mag (a : F64) : Nat := a.bits.toNat % 9223372036854775808
def sign (a : F64) : Bool := decide (9223372036854775808 ≤ a.bits.toNat)
def isNaN (a : F64) : Bool := decide (9218868437227405312 < a.mag)
/-- order key of a non-NaN value; `-0` and `+0` share key 0 -/
def key (a : F64) : Int := if a.sign then -(a.mag : Int) else (a.mag : Int)

/-- IEEE `<` -/
def lt (a b : F64) : Bool := !a.isNaN && !b.isNaN && decide (a.key < b.key)
/-- IEEE `<=` -/
def le (a b : F64) : Bool := !a.isNaN && !b.isNaN && decide (a.key ≤ b.key)
/-- IEEE `==` -/
def feq (a b : F64) : Bool := !a.isNaN && !b.isNaN && decide (a.key = b.key)

/-- `writer::f64_min`: `if a < b { a } else { b }` -/
def fmin (a b : F64) : F64 := if a.lt b then a else b
/-- `writer::f64_max`: `if a > b { a } else { b }` -/
def fmax (a b : F64) : F64 := if b.lt a then a else b

def zero : F64 := ⟨0⟩
def noData : F64 := ofNat Const.noDataBits
def posInf : F64 := ofNat 9218868437227405312
def negInf : F64 := ofNat 18442240474082181120
def sentinelMin : F64 := ofNat Const.sentinelMinBits
def sentinelMax : F64 := ofNat Const.sentinelMaxBits

/-- `is_no_data`: `val <= NO_DATA` (or `<`, whichever the source says) -/
def isNoData (v : F64) : Bool := if Const.isNoDataLe = 1 then v.le noData else v.lt noData

/-- `f64::max(v, NO_DATA)` (std: a NaN operand yields the other operand) -/
def maxNoData (v : F64) : F64 := if v.isNaN then noData else if noData.lt v then v else noData

def enc (a : F64) : Bytes := encU64LE a.bits.toNat
@[simp] theorem enc_length (a : F64) : a.enc.length = 8 := rfl

def dec (b0 b1 b2 b3 b4 b5 b6 b7 : UInt8) : F64 := ofNat (decU64LE b0 b1 b2 b3 b4 b5 b6 b7)

theorem ofNat_toNat (a : F64) : ofNat a.bits.toNat = a := by
  cases a; simp [ofNat]

end F64
end Shp
