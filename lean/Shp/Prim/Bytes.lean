/-
Bytes and the fixed-width number codecs used by the shapefile format
(`byteorder`'s `read_i32::<BigEndian/LittleEndian>`, `read_f64::<LittleEndian>` and the
matching `write_*`).  Core Lean only: this file is imported by the native driver.
-/
namespace Shp

abbrev Bytes := List UInt8

/-- low byte of a natural number -/
def u8 (n : Nat) : UInt8 := UInt8.ofNat n

@[simp] theorem u8_toNat (n : Nat) : (u8 n).toNat = n % 256 := by
  simp [u8]

/-- little-endian, 4 bytes, of `n mod 2^32` -/
def encU32LE (n : Nat) : Bytes := [u8 n, u8 (n / 256), u8 (n / 65536), u8 (n / 16777216)]
/-- big-endian, 4 bytes, of `n mod 2^32` -/
def encU32BE (n : Nat) : Bytes := [u8 (n / 16777216), u8 (n / 65536), u8 (n / 256), u8 n]
/-- little-endian, 8 bytes, of `n mod 2^64` -/
def encU64LE (n : Nat) : Bytes :=
  [u8 n, u8 (n / 256), u8 (n / 65536), u8 (n / 16777216), u8 (n / 4294967296),
   u8 (n / 1099511627776), u8 (n / 281474976710656), u8 (n / 72057594037927936)]

def decU32LE (b0 b1 b2 b3 : UInt8) : Nat :=
  b0.toNat + 256 * b1.toNat + 65536 * b2.toNat + 16777216 * b3.toNat
def decU32BE (b0 b1 b2 b3 : UInt8) : Nat := decU32LE b3 b2 b1 b0
def decU64LE (b0 b1 b2 b3 b4 b5 b6 b7 : UInt8) : Nat :=
  b0.toNat + 256 * b1.toNat + 65536 * b2.toNat + 16777216 * b3.toNat + 4294967296 * b4.toNat
    + 1099511627776 * b5.toNat + 281474976710656 * b6.toNat + 72057594037927936 * b7.toNat

/-- two's complement: the `u32` holding an `i32` -/
def ofI32 (i : Int) : Nat := (i % 4294967296).toNat
/-- two's complement: the `i32` held by a `u32` -/
def toI32 (n : Nat) : Int := if n < 2147483648 then (n : Int) else (n : Int) - 4294967296

def InI32 (i : Int) : Prop := -2147483648 ≤ i ∧ i < 2147483648
instance (i : Int) : Decidable (InI32 i) := by unfold InI32; infer_instance

theorem toI32_ofI32 {i : Int} (h : InI32 i) : toI32 (ofI32 i) = i := by
  unfold InI32 at h
  unfold toI32 ofI32
  split <;> omega

theorem toI32_inI32 (n : Nat) (h : n < 4294967296) : InI32 (toI32 n) := by
  unfold InI32 toI32; split <;> omega

theorem ofI32_lt (i : Int) : ofI32 i < 4294967296 := by
  unfold ofI32; omega

theorem inI32_nat {n : Nat} (h : n < 2147483648) : InI32 (n : Int) := by
  unfold InI32; omega

/-! Both codecs of the development (this one and the whitepaper's in `Shp.Spec`) write the `k` low
bytes of a number, least significant first; every round trip and every equality between the two
is an instance of `leVal_leBytes`, `leBytes_mod` and `leBytes_add`. -/

/-- the `k` low bytes of `n`, least significant first -/
def leBytes : Nat → Nat → Bytes
  | 0, _ => []
  | k + 1, n => u8 n :: leBytes k (n / 256)

/-- the number a little-endian byte string denotes -/
def leVal : Bytes → Nat
  | [] => 0
  | b :: bs => b.toNat + 256 * leVal bs

theorem u8_congr {a b : Nat} (h : a % 256 = b % 256) : u8 a = u8 b :=
  UInt8.toNat_inj.mp (by rw [u8_toNat, u8_toNat, h])

theorem leVal_leBytes (k n : Nat) : leVal (leBytes k n) = n % 256 ^ k := by
  induction k generalizing n with
  | zero => simp [leBytes, leVal, Nat.mod_one]
  | succ k ih => rw [leBytes, leVal, ih, u8_toNat, Nat.pow_succ', Nat.mod_mul]

theorem leBytes_mod {k j : Nat} (h : k ≤ j) (n : Nat) : leBytes k (n % 256 ^ j) = leBytes k n := by
  induction k generalizing n j with
  | zero => rfl
  | succ k ih =>
    obtain ⟨j, rfl⟩ : ∃ i, j = i + 1 := ⟨j - 1, by omega⟩
    rw [leBytes, leBytes, Nat.pow_succ', Nat.mod_mul_right_div_self, ih (by omega),
      u8_congr (Nat.mod_mod_of_dvd n (Nat.dvd_mul_right 256 _))]

theorem leBytes_add (j k n : Nat) : leBytes (j + k) n = leBytes j n ++ leBytes k (n / 256 ^ j) := by
  induction j generalizing n with
  | zero => simp [leBytes]
  | succ j ih => rw [Nat.add_right_comm, leBytes, leBytes, ih, Nat.pow_succ', Nat.div_div_eq_div_mul]; rfl

theorem encU32LE_eq (n : Nat) : encU32LE n = leBytes 4 n := by
  simp [encU32LE, leBytes, Nat.div_div_eq_div_mul]

theorem encU64LE_eq (n : Nat) : encU64LE n = leBytes 8 n := by
  simp [encU64LE, leBytes, Nat.div_div_eq_div_mul]

theorem decU32LE_eq (b0 b1 b2 b3 : UInt8) : decU32LE b0 b1 b2 b3 = leVal [b0, b1, b2, b3] := by
  simp only [decU32LE, leVal, Nat.mul_add, ← Nat.mul_assoc, Nat.mul_zero, Nat.add_zero, Nat.add_assoc, Nat.reduceMul]

theorem decU64LE_eq (b0 b1 b2 b3 b4 b5 b6 b7 : UInt8) :
    decU64LE b0 b1 b2 b3 b4 b5 b6 b7 = leVal [b0, b1, b2, b3, b4, b5, b6, b7] := by
  simp only [decU64LE, leVal, Nat.mul_add, ← Nat.mul_assoc, Nat.mul_zero, Nat.add_zero, Nat.add_assoc, Nat.reduceMul]

theorem leVal_lt {k : Nat} (bs : Bytes) (h : bs.length = k) : leVal bs < 256 ^ k := by
  subst h
  induction bs with
  | nil => exact Nat.one_pos
  | cons b bs ih => have := b.toNat_lt; rw [leVal, List.length_cons, Nat.pow_succ']; omega

/-- the order of numerals is decided by their high bytes first -/
theorem leVal_mix (x y : Bytes) (i : Nat) (hl : x.length = y.length) (h : leVal x ≤ leVal y) :
    leVal x ≤ leVal (x.take i ++ y.drop i) := by
  induction x generalizing y i with
  | nil => exact Nat.zero_le _
  | cons p xs ih =>
    match y, i with
    | _, 0 => exact h
    | q :: ys, i + 1 =>
      have := q.toNat_lt
      have hxy : leVal xs ≤ leVal ys := by simp only [leVal] at h; omega
      exact Nat.add_le_add_left (Nat.mul_le_mul_left 256 (ih ys i (Nat.succ.inj hl) hxy)) _

theorem decU32LE_lt (b0 b1 b2 b3 : UInt8) : decU32LE b0 b1 b2 b3 < 4294967296 := by
  rw [decU32LE_eq]; exact leVal_lt (k := 4) _ rfl

theorem decU32LE_enc (n : Nat) (h : n < 4294967296) :
    decU32LE (u8 n) (u8 (n / 256)) (u8 (n / 65536)) (u8 (n / 16777216)) = n := by
  rw [decU32LE_eq, ← encU32LE, encU32LE_eq, leVal_leBytes]
  exact Nat.mod_eq_of_lt h

theorem decU64LE_enc (n : Nat) (h : n < 18446744073709551616) :
    decU64LE (u8 n) (u8 (n / 256)) (u8 (n / 65536)) (u8 (n / 16777216)) (u8 (n / 4294967296))
      (u8 (n / 1099511627776)) (u8 (n / 281474976710656)) (u8 (n / 72057594037927936)) = n := by
  rw [decU64LE_eq, ← encU64LE, encU64LE_eq, leVal_leBytes]
  exact Nat.mod_eq_of_lt h

theorem decU64LE_lt (b0 b1 b2 b3 b4 b5 b6 b7 : UInt8) :
    decU64LE b0 b1 b2 b3 b4 b5 b6 b7 < 18446744073709551616 := by
  rw [decU64LE_eq]; exact leVal_lt (k := 8) _ rfl

@[simp] theorem encU32LE_length (n : Nat) : (encU32LE n).length = 4 := rfl
@[simp] theorem encU32BE_length (n : Nat) : (encU32BE n).length = 4 := rfl
@[simp] theorem encU64LE_length (n : Nat) : (encU64LE n).length = 8 := rfl

def encI32LE (i : Int) : Bytes := encU32LE (ofI32 i)
def encI32BE (i : Int) : Bytes := encU32BE (ofI32 i)
@[simp] theorem encI32LE_length (i : Int) : (encI32LE i).length = 4 := rfl
@[simp] theorem encI32BE_length (i : Int) : (encI32BE i).length = 4 := rfl

end Shp
