/-
The decoder monad: a decoder consumes a prefix of the bytes it is given (`Read::read_exact`
on a sequential source) and yields a value with the rest, a library error, or a panic
(arithmetic overflow, failed assertion, capacity overflow: the things C07 forbids).
-/
import Shp.Prim.F64
namespace Shp

/-- `shapefile::Error`, as finely as the properties need it -/
inductive Err where
  | io                                   -- IoError (UnexpectedEof, InvalidData, ...)
  | fileCode (c : Int)                   -- InvalidFileCode
  | shapeType (c : Int)                  -- InvalidShapeType
  | patchType (c : Int)                  -- InvalidPatchType
  | mismatch (requested actual : ShapeType)
  | recSize                              -- InvalidShapeRecordSize
  | noIndex                              -- MissingIndexFile
  | dbase                                -- DbaseError (a row rejected by the dbase crate)
  deriving DecidableEq, Repr, Inhabited

inductive Res (α : Type) where
  | ok (a : α) (rest : Bytes)
  | err (e : Err)
  | panic (site : String)
  deriving Repr

namespace Res
/-- what the same decoder run yields when `ext` is appended to its input (if it did not hit EOF) -/
def extend {α} (r : Res α) (ext : Bytes) : Res α :=
  match r with
  | ok a rest => ok a (rest ++ ext)
  | err e => err e
  | panic s => panic s

def isPanic {α} : Res α → Bool
  | panic _ => true
  | _ => false

def map {α β} (f : α → β) : Res α → Res β
  | ok a r => ok (f a) r
  | err e => err e
  | panic s => panic s
end Res

abbrev Dec (α : Type) := Bytes → Res α

namespace Dec
variable {α β : Type}

@[inline] def pure (a : α) : Dec α := fun bs => .ok a bs
@[inline] def bind (d : Dec α) (f : α → Dec β) : Dec β := fun bs =>
  match d bs with
  | .ok a rest => f a rest
  | .err e => .err e
  | .panic s => .panic s
@[inline] def fail (e : Err) : Dec α := fun _ => .err e
@[inline] def panic (s : String) : Dec α := fun _ => .panic s

/-- `read_exact` of `n` bytes -/
def take (n : Nat) : Dec Bytes := fun bs =>
  if n ≤ bs.length then .ok (bs.take n) (bs.drop n) else .err .io

def u32LE : Dec Nat := fun bs =>
  match bs with
  | b0 :: b1 :: b2 :: b3 :: rest => .ok (decU32LE b0 b1 b2 b3) rest
  | _ => .err .io
def u32BE : Dec Nat := fun bs =>
  match bs with
  | b0 :: b1 :: b2 :: b3 :: rest => .ok (decU32BE b0 b1 b2 b3) rest
  | _ => .err .io
/-- `read_i32::<LittleEndian>` -/
def i32LE : Dec Int := fun bs => (u32LE bs).map toI32
/-- `read_i32::<BigEndian>` -/
def i32BE : Dec Int := fun bs => (u32BE bs).map toI32
/-- `read_f64::<LittleEndian>` -/
def f64 : Dec F64 := fun bs =>
  match bs with
  | b0 :: b1 :: b2 :: b3 :: b4 :: b5 :: b6 :: b7 :: rest => .ok (F64.dec b0 b1 b2 b3 b4 b5 b6 b7) rest
  | _ => .err .io

theorem i32LE_cons (b0 b1 b2 b3 : UInt8) (r : Bytes) :
    i32LE (b0 :: b1 :: b2 :: b3 :: r) = .ok (toI32 (decU32LE b0 b1 b2 b3)) r := rfl
theorem i32BE_cons (b0 b1 b2 b3 : UInt8) (r : Bytes) :
    i32BE (b0 :: b1 :: b2 :: b3 :: r) = .ok (toI32 (decU32BE b0 b1 b2 b3)) r := rfl

/-- `for _ in 0..n { v.push(d()?) }` -/
def repeatN (n : Nat) (d : Dec α) : Dec (List α) :=
  match n with
  | 0 => pure []
  | n + 1 => bind d fun a => bind (repeatN n d) fun as => pure (a :: as)

/-- run `f` over a list, threading the source (a `for x in xs { ... ? }` loop) -/
def mapM' (f : α → Dec β) : List α → Dec (List β)
  | [] => pure []
  | a :: as => bind (f a) fun b => bind (mapM' f as) fun bs => pure (b :: bs)

/-- running `d` on a longer input gives the same outcome with the extra bytes left over — unless
the shorter run failed with an I/O error (it hit the end of the input) -/
def Stable (d : Dec α) : Prop :=
  ∀ bs ext, d bs = .err .io ∨ d (bs ++ ext) = (d bs).extend ext

theorem Stable.pure (a : α) : Stable (pure a) := fun _ _ => .inr rfl
theorem Stable.fail (e : Err) : Stable (fail e : Dec α) := fun _ _ => .inr rfl

theorem Stable.bind {d : Dec α} {f : α → Dec β} (hd : Stable d) (hf : ∀ a, Stable (f a)) :
    Stable (bind d f) := by
  intro bs ext
  unfold Dec.bind
  rcases hd bs ext with h | h
  · left; rw [h]
  · rw [h]
    cases d bs with
    | ok a rest => exact hf a rest ext
    | err e => right; rfl
    | panic s => right; rfl

theorem Stable.take (n : Nat) : Stable (take n) := by
  intro bs ext
  unfold Dec.take
  by_cases h : n ≤ bs.length
  · right
    rw [if_pos h, if_pos (by rw [List.length_append]; omega), Res.extend,
      List.take_append_of_le_length h, List.drop_append_of_le_length h]
  · left; rw [if_neg h]

theorem take_append (a rest : Bytes) : take a.length (a ++ rest) = .ok a rest := by
  unfold Dec.take
  simp

theorem ite_of {P : Dec α → Prop} {c : Prop} [Decidable c] {d1 d2 : Dec α} (h1 : c → P d1) (h2 : ¬c → P d2) :
    P (if c then d1 else d2) := by
  split
  · exact h1 ‹_›
  · exact h2 ‹_›

/-- `repeatN` inherits every property of decoders that `pure` and `bind` preserve -/
theorem repeatN_closed {P : ∀ {γ : Type}, Dec γ → Prop} (hp : ∀ {γ} (c : γ), P (pure c))
    (hb : ∀ {γ δ} {d : Dec γ} {f : γ → Dec δ}, P d → (∀ a, P (f a)) → P (bind d f))
    (n : Nat) {d : Dec α} (hd : P d) : P (repeatN n d) := by
  induction n with
  | zero => exact hp _
  | succ n ih => exact hb hd fun _ => hb ih fun _ => hp _

theorem Stable.repeatN (n : Nat) {d : Dec α} (hd : Stable d) : Stable (repeatN n d) :=
  repeatN_closed (P := @Stable) Stable.pure Stable.bind n hd

theorem Stable.ok_append {d : Dec α} (hs : Stable d) {bs : Bytes} {a : α} {rest : Bytes}
    (h : d bs = .ok a rest) (ext : Bytes) : d (bs ++ ext) = .ok a (rest ++ ext) := by
  rcases hs bs ext with hio | hext
  · rw [h] at hio; cases hio
  · rw [hext, h]; rfl

/-- a success that read into `ext` runs out of input without it -/
theorem Stable.append_io {d : Dec α} (hs : Stable d) {bs ext : Bytes} {a : α} {rest : Bytes}
    (h : d (bs ++ ext) = .ok a rest) (hc : rest.length < ext.length) : d bs = .err .io := by
  rcases hs bs ext with hio | hext
  · exact hio
  · rw [h] at hext
    cases hb : d bs with
    | ok a' r' =>
      rw [hb] at hext
      cases hext
      rw [List.length_append] at hc
      omega
    | err e => rw [hb] at hext; cases hext
    | panic s => rw [hb] at hext; cases hext

/-- `Exact d enc a`: `d` inverts `enc` at `a` and consumes exactly what `enc a` emitted. -/
def Exact (d : Dec α) (enc : α → Bytes) (a : α) : Prop := ∀ rest, d (enc a ++ rest) = .ok a rest

/-- a source ending inside a value's encoding: `UnexpectedEof` -/
theorem strict_prefix_io {d : Dec α} {enc : α → Bytes} {a : α}
    (hs : Stable d) (he : Exact d enc a) (p ext : Bytes) (hp : p ++ ext = enc a) (hne : ext ≠ []) :
    d p = .err .io :=
  hs.append_io (rest := []) (by rw [hp, ← List.append_nil (enc a)]; exact he []) (List.length_pos_iff.mpr hne)

/-- `d` is a `read_exact` of `k` bytes followed by a pure conversion: what the number primitives
are, and all that the disciplines of `Lemmas/Seq` need to know of them -/
def Fixed (d : Dec α) (k : Nat) : Prop := ∃ g : Bytes → α, ∀ bs, d bs = (take k bs).map g

theorem Fixed.eq {d : Dec α} {k : Nat} (h : Fixed d k) : ∃ g, d = fun bs => (Dec.take k bs).map g :=
  h.imp fun _ hg => funext hg

theorem Fixed.total {d : Dec α} {k : Nat} (h : Fixed d k) (bs : Bytes) (hl : k ≤ bs.length) :
    ∃ a, d bs = .ok a (bs.drop k) := by
  obtain ⟨g, rfl⟩ := h.eq
  exact ⟨g (bs.take k), by simp [Dec.take, hl, Res.map]⟩

theorem Fixed.take (n : Nat) : Fixed (take n) n := ⟨id, fun bs => by cases h : Dec.take n bs <;> rfl⟩

theorem Fixed.map_res {d : Dec α} {k : Nat} (f : α → β) (hd : Fixed d k) : Fixed (fun bs => (d bs).map f) k := by
  obtain ⟨g, hg⟩ := hd
  exact ⟨f ∘ g, fun bs => by simp only [hg]; cases Dec.take k bs <;> rfl⟩

theorem Fixed.of4 (g : UInt8 → UInt8 → UInt8 → UInt8 → α) :
    Fixed (fun bs => match bs with
      | b0 :: b1 :: b2 :: b3 :: rest => .ok (g b0 b1 b2 b3) rest
      | _ => .err .io) 4 :=
  ⟨fun b => match b with | [b0, b1, b2, b3] => g b0 b1 b2 b3 | _ => g 0 0 0 0, fun bs => by
    unfold Dec.take
    match bs with
    | [] | [_] | [_, _] | [_, _, _] => rfl
    | b0 :: b1 :: b2 :: b3 :: rest => rfl⟩

theorem Fixed.u32LE : Fixed u32LE 4 := Fixed.of4 decU32LE
theorem Fixed.u32BE : Fixed u32BE 4 := Fixed.of4 decU32BE
theorem Fixed.i32LE : Fixed i32LE 4 := Fixed.u32LE.map_res _
theorem Fixed.i32BE : Fixed i32BE 4 := Fixed.u32BE.map_res _

theorem Fixed.f64 : Fixed f64 8 :=
  ⟨fun b => match b with
      | [b0, b1, b2, b3, b4, b5, b6, b7] => F64.dec b0 b1 b2 b3 b4 b5 b6 b7
      | _ => F64.zero, fun bs => by
    unfold Dec.f64 Dec.take
    match bs with
    | [] | [_] | [_, _] | [_, _, _] | [_, _, _, _] | [_, _, _, _, _] | [_, _, _, _, _, _] | [_, _, _, _, _, _, _] => rfl
    | b0 :: b1 :: b2 :: b3 :: b4 :: b5 :: b6 :: b7 :: rest => rfl⟩

end Dec
end Shp
