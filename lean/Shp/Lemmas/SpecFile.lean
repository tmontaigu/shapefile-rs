/- The whitepaper codec round trip on records and on files. -/
import Shp.Lemmas.SpecCodec
namespace Shp.Spec

/-- what the strict decoder can tell apart: a record without the fields its type does not have -/
def Rec.canon (r : Rec) : Rec :=
  match typeInfo r.typeCode with
  | none => r
  | some (hasZ, hasM, fam) =>
    match fam with
    | 0 => { number := r.number, typeCode := 0 }
    | 1 => { number := r.number, typeCode := r.typeCode, parts := r.parts.map (List.map (V.canon hasZ hasM)) }
    | _ => { number := r.number, typeCode := r.typeCode, box := r.box,
             zRange := if hasZ then r.zRange else (0, 0), mRange := if hasM then r.mRange else (0, 0),
             parts := r.parts.map (List.map (V.canon hasZ hasM)),
             kinds := if fam = 5 then r.kinds else [], mPresent := hasM }

/-- a record the whitepaper allows in a file of type `fileType` and this library's writer can
produce (the optional M block is stored); every quantity fits its field -/
def Rec.Strict (fileType : Nat) (r : Rec) : Prop :=
  InI32 r.number ∧ (r.typeCode = fileType ∨ r.typeCode = 0) ∧
  match typeInfo r.typeCode with
  | none => False
  | some (_, hasM, fam) =>
    match fam with
    | 0 => True
    | 1 => r.parts.flatten.length = 1 ∧ r.parts.length = 1 ∧ (∀ v ∈ r.parts.flatten, v.Ok) ∧ r.mPresent = true
    | _ => r.box.length = 4 ∧ (∀ b ∈ r.box, Ok64 b) ∧ (∀ v ∈ r.parts.flatten, v.Ok) ∧
           (Ok64 r.zRange.1 ∧ Ok64 r.zRange.2) ∧ (Ok64 r.mRange.1 ∧ Ok64 r.mRange.2) ∧
           (hasM = true → r.mPresent = true) ∧ total r.parts < 2147483648 ∧ r.parts.length < 2147483648 ∧
           (fam = 2 → r.parts.length = 1) ∧
           (fam = 5 → r.kinds.length = r.parts.length ∧ ∀ k ∈ r.kinds, k ≤ 5)

/- `decContent` is unfolded once per family; the `↓` lemmas make `simp` decide each `if`, `bind` and
`match` before it descends, so the families not in play are never visited. -/

/-- the type code's row of Table 1, read the way `decContent` reads it -/
theorem typeInfo_bind {c : Nat} {z m : Bool} {fam : Nat} (hi : typeInfo c = some (z, m, fam)) {β : Type}
    (k : Bool × Bool × Nat → Option β) : (typeInfo (Int.toNat (c : Int))).bind k = k (z, m, fam) := by
  rw [Int.toNat_natCast, hi]; rfl

/-- the part types, present for multipatches only, in the form `simp` leaves reader and bytes -/
theorem rdMany_kinds (fam : Nat) (kinds : List Nat) (np : Nat) (hk : fam = 5 → kinds.length = np ∧ ∀ k ∈ kinds, k ≤ 5)
    (rest : Bytes) :
    (if fam = 5 then rdMany rdI32LE np ((if fam = 5 then kinds else []).flatMap (fun (k : Nat) => wrI32LE (k : Int)) ++ rest)
      else some ([], (if fam = 5 then kinds else []).flatMap (fun (k : Nat) => wrI32LE (k : Int)) ++ rest)) =
      some ((if fam = 5 then kinds else []).map Int.ofNat, rest) := by
  by_cases h : fam = 5
  · obtain ⟨hl, h5⟩ := hk h
    simp only [h, if_true]
    exact hl ▸ rdMany_ints kinds (fun a ha => by have := h5 a ha; omega) rest
  · simp only [h, if_false]; rfl

theorem Rec.Strict.code {fileType : Nat} {r : Rec} (hs : r.Strict fileType) {row : Bool × Bool × Nat}
    (hi : typeInfo r.typeCode = some row) :
    InI32 (r.typeCode : Int) ∧ ¬ (r.typeCode ≠ fileType ∧ r.typeCode ≠ 0) := by
  have := (typeInfo_row hi).code_le
  have := hs.2.1
  exact ⟨InI32.of_nat (by omega), by omega⟩

theorem decContent_parts {fileType : Nat} {r : Rec} (hs : r.Strict fileType) {hasZ hasM : Bool} {fam : Nat}
    (hi : typeInfo r.typeCode = some (hasZ, hasM, fam)) (hf : 3 ≤ fam) :
    decContent fileType r.number (encContent r) = some r.canon := by
  obtain ⟨hcode, hft⟩ := hs.code hi
  obtain ⟨n, rfl⟩ : ∃ n, fam = n + 3 := ⟨fam - 3, by omega⟩
  obtain ⟨hbl, hbo, hvo, hzr, hmr, hmp, htot, hnp, _, hkinds⟩ := hi ▸ hs.2.2
  have hoffs := rdMany_ints (offsetsOf 0 r.parts) (fun a ha => by have := offsetsOf_le 0 r.parts a ha; omega)
  rw [offsetsOf_length] at hoffs
  have hk5 : ∀ k ∈ (if n + 3 = 5 then r.kinds else []), k ≤ 5 := by
    split
    · exact (hkinds ‹_›).2
    · simp
  rw [encContent_of_parts hi hf]
  unfold decContent
  rw [rdI32LE_enc _ hcode]
  simp only [↓Option.bind_eq_bind, ↓Option.bind_some, ↓reduceIte, Option.pure_def, natCast_not_neg, or_self, hft,
    Int.toNat_natCast, ↓typeInfo_bind hi, rdMany_box r.box 4 hbl hbo, rdI32LE_enc _ (InI32.of_nat hnp),
    rdI32LE_enc _ (InI32.of_nat htot), hoffs, any_neg_ofNat, map_toNat_ofNat, offsetsOf_head,
    Bool.false_eq_true, rdMany_kinds (n + 3) r.kinds r.parts.length hkinds, any_bad_kind _ hk5,
    decVerts_enc hasZ hasM (typeInfo_row hi).m_of_z r hvo hzr hmr hmp, splitParts_map]
  simp [Rec.canon, hi]

theorem decContent_multipoint {fileType : Nat} {r : Rec} (hs : r.Strict fileType) {hasZ hasM : Bool}
    (hi : typeInfo r.typeCode = some (hasZ, hasM, 2)) :
    decContent fileType r.number (encContent r) = some r.canon := by
  obtain ⟨hcode, hft⟩ := hs.code hi
  obtain ⟨hbl, hbo, hvo, hzr, hmr, hmp, htot, _, hone, _⟩ := hi ▸ hs.2.2
  obtain ⟨p, hp⟩ := List.length_eq_one_iff.mp (hone rfl)
  rw [encContent_of_multipoint hi]
  unfold decContent
  rw [rdI32LE_enc _ hcode]
  simp only [↓Option.bind_eq_bind, ↓Option.bind_some, ↓reduceIte, Option.pure_def, natCast_not_neg, hft,
    Int.toNat_natCast, ↓typeInfo_bind hi, rdMany_box r.box 4 hbl hbo, rdI32LE_enc _ (InI32.of_nat htot),
    decVerts_enc hasZ hasM (typeInfo_row hi).m_of_z r hvo hzr hmr hmp]
  simp [Rec.canon, hi, hp]

theorem decContent_point {fileType : Nat} {r : Rec} (hs : r.Strict fileType) {hasZ hasM : Bool}
    (hi : typeInfo r.typeCode = some (hasZ, hasM, 1)) :
    decContent fileType r.number (encContent r) = some r.canon := by
  obtain ⟨hcode, hft⟩ := hs.code hi
  obtain ⟨hfl, hpl, hvo, hmp⟩ := hi ▸ hs.2.2
  obtain ⟨p, hp⟩ := List.length_eq_one_iff.mp hpl
  obtain ⟨v, rfl⟩ := List.length_eq_one_iff.mp (show p.length = 1 by simpa [hp] using hfl)
  obtain ⟨hx, hy, hz, hm⟩ : v.Ok := hvo v (by simp [hp])
  have hm' := rdF64_enc _ hm []
  rw [List.append_nil] at hm'
  rw [encContent_of_point hi hp]
  unfold decContent
  rw [rdI32LE_enc _ hcode]
  simp only [↓Option.bind_eq_bind, ↓Option.bind_some, ↓reduceIte, Option.pure_def, natCast_not_neg, hft,
    Int.toNat_natCast, ↓typeInfo_bind hi, rdF64_enc _ hx, rdF64_enc _ hy, hmp, Bool.true_or, Bool.and_true]
  cases hasZ <;> cases hasM
  case true.false => exact absurd ((typeInfo_row hi).m_of_z rfl) (by decide)
  all_goals simp [Rec.canon, hi, hp, V.canon, rdF64_enc _ hz, hm']

theorem decContent_null {fileType : Nat} {r : Rec} (hs : r.Strict fileType) {hasZ hasM : Bool}
    (hi : typeInfo r.typeCode = some (hasZ, hasM, 0)) :
    decContent fileType r.number (encContent r) = some r.canon := by
  obtain ⟨hcode, hft⟩ := hs.code hi
  rw [encContent_of_null hi, ← List.append_nil (wrI32LE _)]
  unfold decContent
  rw [rdI32LE_enc _ hcode]
  simp only [↓Option.bind_eq_bind, ↓Option.bind_some, ↓reduceIte, natCast_not_neg, hft, Int.toNat_natCast,
    ↓typeInfo_bind hi]
  simp [Rec.canon, hi]

theorem Rec.Strict.info {t : Nat} {r : Rec} (h : r.Strict t) : (typeInfo r.typeCode).isSome := by
  have := h.2.2
  cases hi : typeInfo r.typeCode with
  | none => rw [hi] at this; exact this.elim
  | some _ => rfl

theorem decContent_enc (fileType : Nat) (r : Rec) (hs : r.Strict fileType) :
    decContent fileType r.number (encContent r) = some r.canon := by
  obtain ⟨⟨hasZ, hasM, fam⟩, hi⟩ := Option.isSome_iff_exists.mp hs.info
  match fam, hi with
  | 0, hi => exact decContent_null hs hi
  | 1, hi => exact decContent_point hs hi
  | 2, hi => exact decContent_multipoint hs hi
  | n + 3, hi => exact decContent_parts hs hi (by omega)

def Numbered : Nat → List Rec → Prop
  | _, [] => True
  | k, r :: rs => r.number = (k : Int) ∧ Numbered (k + 1) rs

theorem decRecords_cons (t fuel k : Nat) (r : Rec) (rest : Bytes) (hs : r.Strict t) (hk : r.number = (k : Int))
    (hlen : (encContent r).length < 4294967296) :
    decRecords t (fuel + 1) k (encRecord r ++ rest) = (decRecords t fuel (k + 1) rest).map (r.canon :: ·) := by
  obtain ⟨hev, h4⟩ := encContent_length_even r hs.info
  have hne : ∀ (a b : Int) (l : Bytes), (wrI32BE a ++ (wrI32BE b ++ l)).isEmpty = false := fun _ _ _ => rfl
  have hnum : ¬ (r.number ≠ (k : Int)) := fun h => h hk
  obtain ⟨hwords, hmin, hbytes⟩ : InI32 (((encContent r).length : Int) / 2) ∧ ¬ (((encContent r).length : Int) / 2 < 2) ∧
      2 * (((encContent r).length : Int) / 2).toNat = (encContent r).length := by
    unfold InI32
    omega
  simp only [encRecord, List.append_assoc, decRecords, hne, Bool.false_eq_true, if_false, rdI32BE_enc _ hs.1,
    rdI32BE_enc _ hwords, Option.bind_eq_bind, Option.bind_some, Option.pure_def, hnum, hmin, hbytes,
    List.length_append, Nat.not_lt.mpr (Nat.le_add_right _ _), List.take_left, List.drop_left, decContent_enc t r hs]
  cases decRecords t fuel (k + 1) rest <;> rfl

theorem decRecords_enc (t : Nat) (recs : List Rec) (fuel k : Nat) (hf : recs.length ≤ fuel)
    (hs : ∀ r ∈ recs, r.Strict t) (hn : Numbered k recs)
    (hlen : (recs.flatMap encRecord).length < 4294967296) :
    decRecords t fuel k (recs.flatMap encRecord) = some (recs.map Rec.canon) := by
  induction recs generalizing fuel k with
  | nil => cases fuel <;> rfl
  | cons r rs ih =>
    match fuel, hf with
    | f + 1, hf =>
      simp only [List.flatMap_cons, List.length_append, encRecord_length] at hlen
      rw [List.flatMap_cons, decRecords_cons t f k r _ (hs r List.mem_cons_self) hn.1 (by omega),
        ih f (k + 1) (by simpa using hf) (fun x hx => hs x (List.mem_cons_of_mem _ hx)) hn.2 (by omega)]
      rfl

def File.Strict (f : File) : Prop :=
  f.trailing = [] ∧ (typeInfo f.typeCode).isSome ∧ f.box.length = 8 ∧ (∀ b ∈ f.box, Ok64 b) ∧
  (∀ r ∈ f.records, r.Strict f.typeCode) ∧ Numbered 1 f.records ∧
  100 + (f.records.flatMap encRecord).length < 4294967296

def File.canon (f : File) : File := { f with records := f.records.map Rec.canon, trailing := [] }

theorem rdMany_zeros (r : Bytes) : rdMany rdI32BE 5 (List.replicate 20 0 ++ r) = some ([0, 0, 0, 0, 0], r) := rfl

theorem decodeFile_header (t words : Nat) (box : List Nat) (body : Bytes) (hi : (typeInfo t).isSome)
    (hbl : box.length = 8) (hbo : ∀ b ∈ box, Ok64 b) (hw : 2 * words = 100 + body.length) (hsm : words < 2147483648) :
    decodeFile (encHeader t words box ++ body) =
      (decRecords t (body.length + 1) 1 body).map fun recs => { typeCode := t, box := box, records := recs } := by
  obtain ⟨⟨hasZ, hasM, fam⟩, hi⟩ := Option.isSome_iff_exists.mp hi
  have hc31 := (typeInfo_row hi).code_le
  have htot : (encHeader t words box ++ body).length = 2 * words := by
    simp only [encHeader, List.length_append, wrI32BE_length, wrI32LE_length, List.length_replicate, f64s_length, hbl]
    omega
  unfold decodeFile
  rw [htot]
  simp only [encHeader, List.append_assoc]
  rw [rdI32BE_enc 9994 (by unfold InI32; omega)]
  simp only [↓Option.bind_eq_bind, ↓Option.bind_some, ↓reduceIte, Option.pure_def, ne_eq, not_true_eq_false, rdMany_zeros,
    List.any_cons, List.any_nil, decide_false, Bool.or_self, Bool.false_eq_true, rdI32BE_enc _ (InI32.of_nat hsm),
    rdI32LE_enc 1000 (by unfold InI32; omega), rdI32LE_enc _ (InI32.of_nat (n := t) (by omega)), natCast_not_neg,
    or_self, ↓typeInfo_bind hi, rdMany_box box 8 hbl hbo, Int.toNat_natCast]
  cases decRecords t (body.length + 1) 1 body <;> rfl

/-- MAIN (codec): the strict whitepaper decoder inverts the whitepaper encoder -/
theorem decodeFile_encodeFile (f : File) (h : f.Strict) : decodeFile (encodeFile f) = some f.canon := by
  obtain ⟨htr, hti, hbl, hbo, hrs, hnum, hlen⟩ := h
  have hev := body_even f.records fun r hr => (encContent_length_even r (hrs r hr).info).1
  have hcnt := length_le_body f.records
  unfold encodeFile
  simp only [htr, List.append_nil]
  rw [decodeFile_header _ _ _ _ hti hbl hbo (by omega) (by omega),
    decRecords_enc f.typeCode f.records _ 1 (by omega) hrs hnum (by omega)]
  rfl

end Shp.Spec
