/-
Reading a crashed pair of files through the index: the index holds the first entries the writer
emitted, the .shp a byte-prefix of the record stream.  Every entry then leads to the record that was
written for it, or to an I/O error; never to another shape.
-/
import Shp.Lemmas.FileRead
namespace Shp
open Dec

/-- position by position, an output is the shape written at that position or an I/O error -/
def Faithful : List Shape → List ROut → Prop
  | _, [] => True
  | [], _ :: _ => False
  | s :: ss, out :: outs => (out = .shape s ∨ out = .err .io) ∧ Faithful ss outs

structure CInv (o : Orient) (tg : Target) (shapes : List Shape) (st : RState) : Prop where
  idx : ∃ idx, st.index = some idx ∧ idx.length ≤ shapes.length ∧
    ∀ (i : Nat) (h1 : i < idx.length) (h2 : i < shapes.length),
      RecordAt o tg st.data idx[i] shapes[i] ∨
      (0 ≤ idx[i].offset ∧ readOneShape o tg (st.data.drop (2 * idx[i].offset).toNat) = .err .io)
  truthful : ∀ p, st.currentPos = some p → st.srcPos = p

theorem Faithful.of_getElem : ∀ {ss : List Shape} {outs : List ROut}, outs.length ≤ ss.length →
    (∀ (i : Nat) (h1 : i < outs.length) (h2 : i < ss.length), outs[i] = .shape ss[i] ∨ outs[i] = .err .io) →
    Faithful ss outs
  | _, [], _, _ => by simp [Faithful]
  | [], _ :: _, hl, _ => absurd hl (by simp)
  | _ :: _, _ :: _, hl, h =>
    ⟨h 0 (by simp) (by simp), Faithful.of_getElem (by simpa using hl) fun i h1 h2 =>
      h (i + 1) (by simpa using h1) (by simpa using h2)⟩

theorem CInv.tinv {o : Orient} {tg : Target} {shapes : List Shape} {st : RState} (h : CInv o tg shapes st) :
    ∃ outs, TInv o tg outs st ∧ outs.length ≤ shapes.length ∧
      ∀ (i : Nat) (h1 : i < outs.length) (h2 : i < shapes.length), outs[i] = .shape shapes[i] ∨ outs[i] = .err .io := by
  obtain ⟨⟨idx, hidx, hlen, haddr⟩, ht⟩ := h
  refine ⟨idx.map (C13.entryOut o tg st.data), .of_entries hidx ht fun i h1 => ?_, by simpa using hlen, fun i h1 h2 => ?_⟩
  · exact (haddr i h1 (by omega)).imp (fun hr => ⟨_, hr⟩) fun hio => ⟨hio.1, _, hio.2⟩
  · rw [List.getElem_map]
    exact (haddr i (by simpa using h1) h2).imp (·.entryOut) fun hio => C13.entryOut_err hio.2

theorem CInv.iterNext {o : Orient} {tg : Target} {shapes : List Shape} {st : RState} (h : CInv o tg shapes st)
    (idx : List IndexEntry) (hidx : st.index = some idx) (hk : st.nextShape < idx.length) (hk2 : st.nextShape < shapes.length) :
    ∃ st' out, st.iterNext o tg = (st', out) ∧ (out = .shape shapes[st.nextShape] ∨ out = .err .io) ∧
      CInv o tg shapes st' ∧ st'.nextShape = st.nextShape + 1 ∧ st'.index = some idx := by
  obtain ⟨outs, hinv, hle, hout⟩ := h.tinv
  have hk' : st.nextShape < outs.length := by
    obtain ⟨idx', hidx', hlen, _⟩ := hinv.idx
    rw [hidx] at hidx'; cases hidx'; omega
  obtain ⟨st', hn, hinv', hc⟩ := hinv.iterNext hk'
  -- index and source are untouched, so the entries lead where they led
  obtain ⟨hi, hd⟩ := RState.iterNext_frame o tg st
  rw [hn] at hi hd
  exact ⟨st', _, hn, hout _ hk' hk2, ⟨by rw [hi, hd]; exact h.idx, hinv'.truthful⟩, hc, hi.trans hidx⟩

theorem CInv.iterAll {o : Orient} {tg : Target} {shapes : List Shape} (fuel : Nat) {st : RState}
    (h : CInv o tg shapes st) : Faithful (shapes.drop st.nextShape) (st.iterAll o tg fuel).2 := by
  obtain ⟨outs, hinv, hle, hout⟩ := h.tinv
  obtain ⟨st', hall, -⟩ := hinv.iterAll hinv.ne_none fuel
  rw [hall]
  refine .of_getElem (by simp only [List.length_take, List.length_drop]; omega) fun i h1 h2 => ?_
  simp only [List.getElem_take, List.getElem_drop]
  simp only [List.length_take, List.length_drop] at h1 h2
  exact hout _ (by omega) (by omega)

theorem CInv.readNth {o : Orient} {tg : Target} {shapes : List Shape} {st : RState} (h : CInv o tg shapes st)
    (i : Nat) :
    (st.readNth o tg i).2 = .none ∨ (st.readNth o tg i).2 = .err .io ∨
    (∃ hi : i < shapes.length, (st.readNth o tg i).2 = .shape shapes[i]) := by
  obtain ⟨outs, hinv, hle, hout⟩ := h.tinv
  by_cases hi : i < outs.length
  · obtain ⟨st', hr, _⟩ := hinv.readNth i hi
    rw [hr]
    exact (hout i hi (by omega)).elim (fun h => Or.inr (Or.inr ⟨by omega, h⟩)) (fun h => Or.inr (Or.inl h))
  · rw [hinv.readNth_none i (by omega)]; exact Or.inl rfl

/-- a crashed pair: the .shp is a header-sized region `hb` (any 100 bytes) followed by the first `n`
bytes of the record stream, the index holds the first `N` entries -/
theorem crashed_entry (o : Orient) (tg : Target) {t : ShapeType} {ss : List Shape} (hb : Bytes) (n N : Nat)
    (hb100 : hb.length = 100) (hok : ∀ s ∈ ss, RecOK tg t s) (htot : 50 + totalWords ss < 2147483648)
    (i : Nat) (h1 : i < ((indexEntriesFrom 50 ss).take N).length) (h2 : i < (ss.map (Shape.readBack o)).length) :
    RecordAt o tg (hb ++ (recordsFrom t 1 ss).take n) ((indexEntriesFrom 50 ss).take N)[i] (ss.map (Shape.readBack o))[i] ∨
    (0 ≤ ((indexEntriesFrom 50 ss).take N)[i].offset ∧
      readOneShape o tg ((hb ++ (recordsFrom t 1 ss).take n).drop (2 * ((indexEntriesFrom 50 ss).take N)[i].offset).toNat) = .err .io) := by
  have hi : i < ss.length := by simpa using h2
  have h := entry_cut_stream o tg hb (k := 1) (off := 50) n hb100 hok (count_of_total htot) hi (by simpa using hi)
  simp only [List.getElem_take, List.getElem_map]
  split at h
  · exact .inl h
  · exact .inr h

theorem crashed_addr (o : Orient) (tg : Target) (t : ShapeType) (ss : List Shape) (hb : Bytes) (n N : Nat)
    (hb100 : hb.length = 100)
    (hsz : ∀ s ∈ ss, s.Sized) (hnn : ∀ s ∈ ss, s ≠ .null) (hty : ∀ s ∈ ss, s.writeType = t)
    (hacc : ∀ s ∈ ss, tg.Accepts s.writeType) (htot : 50 + totalWords ss < 2147483648)
    (i : Nat) (h1 : i < ((indexEntriesFrom 50 ss).take N).length) (h2 : i < (ss.map (Shape.readBack o)).length) :
    RecordAt o tg (hb ++ (recordsFrom t 1 ss).take n) ((indexEntriesFrom 50 ss).take N)[i] (ss.map (Shape.readBack o))[i] ∨
    (0 ≤ ((indexEntriesFrom 50 ss).take N)[i].offset ∧
      readOneShape o tg ((hb ++ (recordsFrom t 1 ss).take n).drop (2 * ((indexEntriesFrom 50 ss).take N)[i].offset).toNat) = .err .io) :=
  crashed_entry o tg hb n N hb100 (RecOK.of hsz hty hacc) htot i h1 h2

theorem repeatN_entries_take (es : List IndexEntry) (hes : ∀ e ∈ es, InI32 e.offset ∧ InI32 e.recordSize)
    (N m : Nat) (idx : List IndexEntry) (r : Bytes)
    (h : repeatN N readIndexEntry ((es.flatMap IndexEntry.enc).take m) = .ok idx r) :
    idx = es.take N ∧ N ≤ es.length := by
  -- every entry parsed took 8 bytes, and there are `8 * es.length` at most
  have hb := readIndexEntry_seq.consumes.repeatN_backed N _ idx r h
  rw [List.length_take, flatMap_length_const IndexEntry.enc 8 IndexEntry.enc_length es] at hb
  have hN : N ≤ es.length := by omega
  -- on the whole stream the loop returns the same entries, and there they are the first `N`
  have hfull := (Stable.repeatN N readIndexEntry_seq.stable).ok_append h ((es.flatMap IndexEntry.enc).drop m)
  have hex := repeatN_exact readIndexEntry IndexEntry.enc (es.take N)
    (fun e he => readIndexEntry_enc e (hes e (List.mem_of_mem_take he))) ((es.drop N).flatMap IndexEntry.enc)
  rw [← List.flatMap_append, List.take_append_drop, List.length_take, Nat.min_eq_left hN] at hex
  rw [List.take_append_drop, hex] at hfull
  injection hfull with h1 _
  exact ⟨h1.symm, hN⟩

/-- the index read from a crashed .shx: the first entries the writer emitted -/
theorem crashed_index {ss : List Shape} {m : Nat} {dshx : Dst} (hx : C12.Mid ((entriesFrom 50 ss).take m) dshx)
    (htot : 50 + totalWords ss < 2147483648) {idx : List IndexEntry} {xr : Bytes}
    (hri : readIndexFile dshx.data = .ok idx xr) : ∃ N, idx = (indexEntriesFrom 50 ss).take N ∧ N ≤ ss.length := by
  obtain ⟨xh, cnt, _, _, hrep⟩ := readIndexFile_ok hri
  rw [hx.drop, entriesFrom_eq] at hrep
  have := repeatN_entries_take (indexEntriesFrom 50 ss) (indexEntriesFrom_inI32 50 ss htot) _ m idx xr hrep
  exact ⟨_, this.1, by simpa using this.2⟩

theorem crashed_pair_of_recOK (o : Orient) (tg : Target) {t : ShapeType} {ss : List Shape} {n m : Nat} {dshp dshx : Dst}
    (hm : C12.Mid ((recordsFrom t 1 ss).take n) dshp) (hx : C12.Mid ((entriesFrom 50 ss).take m) dshx)
    (hok : ∀ s ∈ ss, RecOK tg t s) (htot : 50 + totalWords ss < 2147483648) :
    (∀ e, RState.open dshp.data (some dshx.data) = .error e → ∃ er, e = .err er) ∧
    (∀ st, RState.open dshp.data (some dshx.data) = .ok st →
      (∀ fuel, Faithful (ss.map (Shape.readBack o)) (st.iterAll o tg fuel).2) ∧
      (∀ i, (st.readNth o tg i).2 = .none ∨ (st.readNth o tg i).2 = .err .io ∨
        (∃ hi : i < (ss.map (Shape.readBack o)).length, (st.readNth o tg i).2 = .shape (ss.map (Shape.readBack o))[i]))) := by
  refine ⟨fun e he => RState.open_error he, fun st hst => ?_⟩
  obtain ⟨idx, xr, hd, r, hri, hr, rfl⟩ := RState.open_some_ok hst
  obtain ⟨N, rfl, hN⟩ := crashed_index hx htot hri
  obtain ⟨hb, hb100, hdata⟩ := hm.full (readHeader_eats _ _ _ hr).1
  have hinv : CInv o tg (ss.map (Shape.readBack o)) ⟨dshp.data, 100, hd, some ((indexEntriesFrom 50 ss).take N), some 100, 0⟩ :=
    ⟨⟨_, rfl, by simp only [List.length_take, List.length_map, indexEntriesFrom_length]; omega,
      fun i h1 h2 => hdata ▸ crashed_entry o tg hb n N hb100 hok htot i h1 h2⟩, fun p hp => Option.some.inj hp⟩
  exact ⟨fun fuel => hinv.iterAll fuel, fun i => hinv.readNth i⟩

end Shp
