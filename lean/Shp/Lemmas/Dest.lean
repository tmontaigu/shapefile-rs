/-
One destination.  `write_shape` and `finalize` issue the same operations to the .shp and to the
.shx (`writeOps`, `finalizeOps`), which differ only in the header and the chunk written.  What these
do is said here once: to a destination that holds a body behind a whole header with the position at
the end (`Dst.Holds`, the shape `WInv` asks of both files), and to one whose header region may be
incomplete (`C12.Mid`, what a failed `finalize` leaves).
-/
import Shp.Model.Writer
namespace Shp

theorem zeros_length (n : Nat) : (zeros n).length = n := by simp [zeros]

theorem Header.enc_length (h : Header) : h.enc.length = 100 := by
  simp [Header.enc, zeros_length]

theorem IndexEntry.enc_length (e : IndexEntry) : e.enc.length = 8 := by simp [IndexEntry.enc]

theorem writeAt_append (pre post bs : Bytes) :
    writeAt (pre ++ post) pre.length bs = pre ++ bs ++ post.drop bs.length := by
  simp [writeAt, zeros]

theorem writeAt_end (data bs : Bytes) : writeAt data data.length bs = data ++ bs := by
  simpa using writeAt_append data [] bs

theorem writeAt_zero (data bs : Bytes) : writeAt data 0 bs = bs ++ data.drop bs.length :=
  writeAt_append [] data bs

theorem Dst.apply_write_end (d : Dst) (bs : Bytes) (h : d.pos = d.data.length) :
    d.apply (.write bs) = ⟨d.data ++ bs, (d.data ++ bs).length⟩ := by
  simp [Dst.apply, h, writeAt_end]

/-- what `write_shape` issues to one destination: the header first while the file has no type -/
def writeOps (first : Prop) [Decidable first] (hdr chunk : Bytes) : List IOOp :=
  if first then [.seekStart 0, .write hdr, .write chunk] else [.write chunk]

theorem writeOps_first {first : Prop} [Decidable first] (h : first) (hdr chunk : Bytes) :
    writeOps first hdr chunk = [.seekStart 0, .write hdr, .write chunk] := if_pos h

theorem writeOps_next {first : Prop} [Decidable first] (h : ¬ first) (hdr chunk : Bytes) :
    writeOps first hdr chunk = [.write chunk] := if_neg h

/-- what a dirty `finalize` issues to one destination -/
def finalizeOps (hdr : Bytes) : List IOOp := [.seekStart 0, .write hdr, .seekEnd, .flush]

def rewriteHeader (d : Dst) (hdr : Bytes) : Dst :=
  (((d.apply (.seekStart 0)).apply (.write hdr)).apply .seekEnd).apply .flush

theorem rewriteHeader_eq (d : Dst) (hdr : Bytes) : rewriteHeader d hdr = d.applyAll (finalizeOps hdr) := rfl

/-- the header region may be shorter than a header (the first header write failed midway) only
while nothing lies behind it -/
def C12.Mid (rest : Bytes) (d : Dst) : Prop :=
  ∃ hb : Bytes, hb.length ≤ 100 ∧ (hb.length < 100 → rest = []) ∧ d.data = hb ++ rest

open C12 (Mid)

theorem C12.Mid.drop {rest : Bytes} {d : Dst} (hm : Mid rest d) : d.data.drop 100 = rest := by
  obtain ⟨hb, h1, h2, h3⟩ := hm
  by_cases hlt : hb.length < 100
  · rw [h3, h2 hlt, List.append_nil, List.drop_eq_nil_of_le (Nat.le_of_lt hlt)]
  · rw [h3, List.drop_left' (by omega)]

theorem C12.Mid.full {rest : Bytes} {d : Dst} (hm : Mid rest d) (hl : 100 ≤ d.data.length) :
    ∃ hb : Bytes, hb.length = 100 ∧ d.data = hb ++ rest :=
  ⟨d.data.take 100, by rw [List.length_take]; omega, by rw [← hm.drop, List.take_append_drop]⟩

theorem C12.Mid.header {rest : Bytes} {d : Dst} (hm : Mid rest d) (hdr : Bytes) (hl : hdr.length = 100) :
    (d.apply (.seekStart 0)).apply (.write hdr) = ⟨hdr ++ rest, 100⟩ := by
  simp only [Dst.apply, writeAt_zero, hl, hm.drop, Nat.zero_add]

theorem C12.Mid.finalize {rest : Bytes} {d : Dst} (hm : Mid rest d) (hdr : Bytes) (hl : hdr.length = 100) :
    d.applyAll (finalizeOps hdr) = ⟨hdr ++ rest, (hdr ++ rest).length⟩ := by
  simp only [finalizeOps, Dst.applyAll, List.foldl_cons, List.foldl_nil, hm.header hdr hl]
  rfl

/-- under `fresh` the header region may still be empty (nothing written yet) -/
def Dst.Holds (d : Dst) (fresh : Prop) (body : Bytes) : Prop :=
  ∃ hb : Bytes, (hb.length = 100 ∨ (hb = [] ∧ fresh)) ∧ d.data = hb ++ body ∧ d.pos = d.data.length

theorem Dst.holds_empty {fresh : Prop} (h : fresh) : Dst.empty.Holds fresh [] :=
  ⟨[], Or.inr ⟨rfl, h⟩, rfl, rfl⟩

theorem Dst.holds_mk (fresh : Prop) (hdr body : Bytes) (hl : hdr.length = 100) :
    (⟨hdr ++ body, (hdr ++ body).length⟩ : Dst).Holds fresh body :=
  ⟨hdr, Or.inl hl, rfl, rfl⟩

theorem C12.Mid.header_holds {d : Dst} (hm : Mid [] d) (hdr : Bytes) (hl : hdr.length = 100) :
    ((d.apply (.seekStart 0)).apply (.write hdr)).Holds False [] := by
  rw [hm.header hdr hl]
  exact ⟨hdr, .inl hl, rfl, by simp [hl]⟩

theorem Dst.Holds.pos {d : Dst} {fresh : Prop} {body : Bytes} (h : d.Holds fresh body) : d.pos = d.data.length := by
  obtain ⟨_, _, _, hp⟩ := h
  exact hp

theorem Dst.Holds.mid {d : Dst} {fresh : Prop} {body : Bytes} (h : d.Holds fresh body) (hf : fresh → body = []) :
    C12.Mid body d := by
  obtain ⟨hb, hhb, hd, _⟩ := h
  rcases hhb with h | ⟨rfl, h⟩
  · exact ⟨hb, by omega, by omega, hd⟩
  · exact ⟨[], by simp, fun _ => hf h, hd⟩

theorem Dst.Holds.mid_append {d d' : Dst} {fresh : Prop} {body : Bytes} (h : d.Holds fresh body) (hf : ¬ fresh)
    (junk : Bytes) (hd : d'.data = d.data ++ junk) : Mid (body ++ junk) d' := by
  obtain ⟨hb, hhb, hdat, _⟩ := h
  have := hhb.resolve_right (fun h => hf h.2)
  exact ⟨hb, by omega, by omega, by rw [hd, hdat, List.append_assoc]⟩

theorem Dst.Holds.append {d : Dst} {fresh : Prop} {body : Bytes} (h : d.Holds fresh body) (hf : ¬ fresh)
    (fresh' : Prop) (chunk : Bytes) : (d.apply (.write chunk)).Holds fresh' (body ++ chunk) := by
  obtain ⟨hb, hhb, hd, hp⟩ := h
  rw [Dst.apply_write_end d chunk hp, hd, List.append_assoc]
  exact Dst.holds_mk _ _ _ (hhb.resolve_right (fun h => hf h.2))

theorem Dst.Holds.writeOps {d : Dst} {fresh first : Prop} [Decidable first] {body : Bytes} (h : d.Holds fresh body)
    (hf : first ↔ fresh) (hb : fresh → body = []) (fresh' : Prop) (hdr chunk : Bytes) (hl : hdr.length = 100) :
    (d.applyAll (Shp.writeOps first hdr chunk)).Holds fresh' (body ++ chunk) := by
  by_cases h1 : first
  · obtain rfl := hb (hf.1 h1)
    rw [writeOps_first h1]
    exact ((h.mid hb).header_holds hdr hl).append id _ _
  · rw [writeOps_next h1]
    exact h.append (mt hf.2 h1) _ _

end Shp
