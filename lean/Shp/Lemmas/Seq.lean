/-
The one discipline every decoder of the model obeys, `Seq`.  It is closed under everything the model
decoders are built from, so it is shown once per decoder; that `d` is extension-stable (`Stable`),
looks at no byte it does not consume (`Local`), and consumed at least `n` bytes (`Consumes`) are
corollaries.  `Eats d k` is the exact count, for straight-line decoders (the file header).
-/
import Shp.Lemmas.Post
namespace Shp
namespace Dec
variable {α β : Type}

/-- second clause: a success on `bs ++ ext` that left all of `ext` (the rest is at least that long) is
a success on `bs` alone -/
def Local (d : Dec α) : Prop :=
  (∀ bs a rest, d bs = .ok a rest → rest.length ≤ bs.length) ∧
  (∀ bs ext a rest, d (bs ++ ext) = .ok a rest → ext.length ≤ rest.length →
    ∃ r', rest = r' ++ ext ∧ d bs = .ok a r')

def Consumes (d : Dec α) (n : Nat) : Prop := ∀ bs a rest, d bs = .ok a rest → rest.length + n ≤ bs.length

/-- `ok`: a success is a function of the bytes it consumed (`used`, at least `n` of them) and of
nothing behind them -/
structure Seq (d : Dec α) (n : Nat) : Prop where
  stable : Stable d
  ok : ∀ bs a rest, d bs = .ok a rest → ∃ used, bs = used ++ rest ∧ n ≤ used.length ∧ ∀ t, d (used ++ t) = .ok a t
  noPanic : NoPanic d

theorem Seq.consumes {d : Dec α} {n : Nat} (h : Seq d n) : Consumes d n := by
  intro bs a rest he
  obtain ⟨used, rfl, hn, _⟩ := h.ok bs a rest he
  simp only [List.length_append]; omega

theorem Seq.local {d : Dec α} {n : Nat} (h : Seq d n) : Local d := by
  refine ⟨fun bs a rest he => by have := h.consumes bs a rest he; omega, fun bs ext a rest he hle => ?_⟩
  obtain ⟨used, hu, _, hd⟩ := h.ok _ a rest he
  -- `bs ++ ext = used ++ rest` with `ext` no longer than `rest`: `used` is a prefix of `bs`
  obtain ⟨c, rfl, rfl⟩ | ⟨r', rfl, rfl⟩ := List.append_eq_append_iff.mp hu
  · have : c = [] := by
      apply List.eq_nil_of_length_eq_zero
      simp only [List.length_append] at hle; omega
    subst this
    exact ⟨[], by simp, by simpa using hd []⟩
  · exact ⟨r', rfl, hd r'⟩

theorem Seq.mono {d : Dec α} {n m : Nat} (h : Seq d n) (hm : m ≤ n) : Seq d m :=
  ⟨h.stable, fun bs a rest he => by
    obtain ⟨used, hu, hn, hd⟩ := h.ok bs a rest he
    exact ⟨used, hu, by omega, hd⟩, h.noPanic⟩

theorem Seq.pure (a : α) : Seq (pure a) 0 :=
  ⟨Stable.pure a, fun bs a' rest h => (by cases h; exact ⟨[], rfl, Nat.le_refl _, fun _ => rfl⟩), NoPanic.pure a⟩

theorem Seq.fail (e : Err) (n : Nat) : Seq (fail e : Dec α) n := ⟨Stable.fail e, fun _ _ _ h => (by cases h), NoPanic.fail e⟩

theorem Seq.bind {d : Dec α} {f : α → Dec β} {n m : Nat} (hd : Seq d n) (hf : ∀ a, Seq (f a) m) :
    Seq (bind d f) (m + n) := by
  refine ⟨Stable.bind hd.stable fun a => (hf a).stable, fun bs b rest h => ?_,
    NoPanic.bind hd.noPanic fun a => (hf a).noPanic⟩
  obtain ⟨a, r, h1, h2⟩ := bind_ok h
  obtain ⟨u1, rfl, hn, hu1⟩ := hd.ok _ _ _ h1
  obtain ⟨u2, rfl, hm, hu2⟩ := (hf a).ok _ _ _ h2
  exact ⟨u1 ++ u2, (List.append_assoc ..).symm, by simp only [List.length_append]; omega, fun t => by
    rw [List.append_assoc, bind_of_ok (hu1 _)]; exact hu2 t⟩

theorem Seq.ite {c : Prop} [Decidable c] {d1 d2 : Dec α} {n : Nat} (h1 : Seq d1 n) (h2 : Seq d2 n) :
    Seq (if c then d1 else d2) n := ite_of (P := (Seq · n)) (fun _ => h1) fun _ => h2

theorem Seq.take (n : Nat) : Seq (take n) n := by
  refine ⟨Stable.take n, fun bs a rest h => ?_, fun bs => by unfold Dec.take; split <;> rfl⟩
  unfold Dec.take at h
  split at h
  · cases h
    have hl : (bs.take n).length = n := by simp only [List.length_take]; omega
    refine ⟨bs.take n, (List.take_append_drop n bs).symm, by omega, fun t => ?_⟩
    unfold Dec.take
    simp [hl]
  · cases h

theorem map_eq_bind (f : α → β) (d : Dec α) : (fun bs => (d bs).map f) = bind d fun a => pure (f a) :=
  funext fun bs => by unfold Dec.bind; cases d bs <;> rfl

theorem Fixed.seq {d : Dec α} {k : Nat} (h : Fixed d k) : Seq d k := by
  obtain ⟨g, rfl⟩ := h.eq
  exact map_eq_bind g (Dec.take k) ▸
    ((Seq.take k).bind fun a => Seq.pure (g a)).mono (Nat.le_of_eq (Nat.zero_add k).symm)

theorem Seq.f64 : Seq f64 8 := Fixed.f64.seq
theorem Seq.i32LE : Seq i32LE 4 := Fixed.i32LE.seq
theorem Seq.i32BE : Seq i32BE 4 := Fixed.i32BE.seq

theorem Seq.repeatN (n : Nat) {d : Dec α} {k : Nat} (hd : Seq d k) : Seq (repeatN n d) 0 :=
  repeatN_closed (P := fun d => Seq d 0) Seq.pure Seq.bind n (hd.mono (Nat.zero_le _))

theorem Seq.mapM' {f : α → Dec β} {k : Nat} (hf : ∀ a, Seq (f a) k) (l : List α) : Seq (mapM' f l) 0 := by
  induction l with
  | nil => exact Seq.pure _
  | cons a as ih => exact ((hf a).bind fun _ => ih.bind fun _ => Seq.pure _).mono (Nat.zero_le _)

def Eats (d : Dec α) (k : Nat) : Prop := ∀ bs a rest, d bs = .ok a rest → k ≤ bs.length ∧ rest = bs.drop k

theorem Fixed.eats {d : Dec α} {k : Nat} (h : Fixed d k) : Eats d k := by
  intro bs a rest he
  have hl : k ≤ bs.length := by have := h.seq.consumes bs a rest he; omega
  obtain ⟨a', ha⟩ := h.total bs hl
  rw [he] at ha
  cases ha
  exact ⟨hl, rfl⟩

theorem Eats.pure (a : α) : Eats (Dec.pure a) 0 := fun _ _ _ h => by cases h; exact ⟨Nat.zero_le _, rfl⟩
theorem Eats.fail (e : Err) (k : Nat) : Eats (Dec.fail e : Dec α) k := fun _ _ _ h => by cases h
theorem Eats.bind {d : Dec α} {f : α → Dec β} {n m : Nat} (hd : Eats d n) (hf : ∀ a, Eats (f a) m) :
    Eats (Dec.bind d f) (m + n) := by
  intro bs b rest h
  obtain ⟨a, r, h1, h2⟩ := bind_ok h
  obtain ⟨hn, rfl⟩ := hd bs a r h1
  obtain ⟨hm, rfl⟩ := hf a _ b rest h2
  rw [List.length_drop] at hm
  exact ⟨by omega, by rw [List.drop_drop, Nat.add_comm]⟩
theorem Eats.ite {c : Prop} [Decidable c] {d1 d2 : Dec α} {k : Nat} (h1 : Eats d1 k) (h2 : Eats d2 k) :
    Eats (if c then d1 else d2) k := ite_of (P := (Eats · k)) (fun _ => h1) fun _ => h2

theorem Consumes.repeatN_backed {d : Dec α} {c : Nat} (hd : Consumes d c) (n : Nat) (bs : Bytes) (l : List α)
    (rest : Bytes) (h : repeatN n d bs = .ok l rest) : l.length = n ∧ rest.length + c * l.length ≤ bs.length := by
  induction n generalizing bs l with
  | zero => cases h; simp
  | succ n ih =>
    obtain ⟨a, r, h1, h2⟩ := bind_ok h
    obtain ⟨as, r', h3, h4⟩ := bind_ok h2
    cases h4
    have := hd bs a r h1
    have := ih r as h3
    simp only [List.length_cons, Nat.mul_add, Nat.mul_one]
    omega

theorem Consumes.repeatN (n : Nat) {d : Dec α} (hd : Consumes d 0) : Consumes (repeatN n d) 0 :=
  fun bs l rest h => by have := (hd.repeatN_backed n bs l rest h).2; omega

theorem Local.bind {d : Dec α} {f : α → Dec β} (hd : Local d) (hf : ∀ a, Local (f a)) :
    Local (bind d f) := by
  refine ⟨?_, ?_⟩
  · intro bs b rest h
    obtain ⟨a, r, h1, h2⟩ := bind_ok h
    have := hd.1 bs a r h1
    have := (hf a).1 r b rest h2
    omega
  · intro bs ext b rest h hle
    obtain ⟨a, r, h1, h2⟩ := bind_ok h
    have hr := (hf a).1 r b rest h2
    obtain ⟨r1, e1, hd1⟩ := hd.2 bs ext a r h1 (by omega)
    rw [e1] at h2
    obtain ⟨r2, e2, hf2⟩ := (hf a).2 r1 ext b rest h2 hle
    exact ⟨r2, e2, by rw [bind_of_ok hd1]; exact hf2⟩

theorem Local.repeatN (n : Nat) {d : Dec α} (hd : Local d) : Local (repeatN n d) :=
  repeatN_closed (P := @Local) (fun c => (Seq.pure c).local) Local.bind n hd

end Dec
end Shp
