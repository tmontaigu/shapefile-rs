/- Sequential (index-less) reading: records are consumed one after the other up to the length the
header declares; bytes past it are ignored. -/
import Shp.Lemmas.FileRead
namespace Shp

/-- from byte `p` on, `data` holds the records `shapes`, back to back, and the declared length `flen`
ends inside or right behind the last one (a record that starts before `flen` is read whole) -/
def SeqRecords (o : Orient) (tg : Target) (data : Bytes) (flen : Nat) : Nat → List Shape → Prop
  | p, [] => flen ≤ p
  | p, s :: ss => p < flen ∧ ∃ (w : Int) (rest : Bytes),
      readOneShape o tg (data.drop p) = .ok (w, s) rest ∧ 0 ≤ w ∧
      p + 8 + (2 * w).toNat + rest.length = data.length ∧
      SeqRecords o tg data flen (p + 8 + (2 * w).toNat) ss

structure SInv (o : Orient) (tg : Target) (shapes : List Shape) (st : RState) : Prop where
  noIndex : st.index = none
  pos : st.currentPos = some st.srcPos
  flen : 0 ≤ st.header.fileLength
  recs : SeqRecords o tg st.data (2 * st.header.fileLength).toNat st.srcPos shapes

theorem SeqRecords.cons {o : Orient} {tg : Target} {pre e tail : Bytes} {n w : Nat} {s : Shape} {ss : List Shape}
    (hrec : readOneShape o tg (e ++ tail) = .ok ((w : Int), s) tail) (he : e.length = 8 + 2 * w)
    (ih : SeqRecords o tg (pre ++ e ++ tail) ((pre ++ e).length + n) (pre ++ e).length ss) :
    SeqRecords o tg (pre ++ (e ++ tail)) (pre.length + (e.length + n)) pre.length (s :: ss) := by
  have hd : (pre ++ (e ++ tail)).drop pre.length = e ++ tail := List.drop_left
  refine ⟨by omega, w, tail, hd.symm ▸ hrec, Int.natCast_nonneg w, record_end hd he, ?_⟩
  rw [show pre.length + 8 + (2 * (w : Int)).toNat = (pre ++ e).length by rw [List.length_append]; omega,
    ← List.append_assoc, ← Nat.add_assoc, ← List.length_append]
  exact ih

theorem seqRecords_records (o : Orient) (tg : Target) (t : ShapeType) (ss : List Shape) (pre extra : Bytes) (k : Nat)
    (hok : ∀ s ∈ ss, RecOK tg t s) (hk : k + ss.length < 2147483648) :
    SeqRecords o tg (pre ++ (recordsFrom t k ss ++ extra)) (pre.length + (recordsFrom t k ss).length) pre.length
      (ss.map (Shape.readBack o)) := by
  induction ss generalizing pre k with
  | nil => simp [SeqRecords, recordsFrom]
  | cons s ss ih =>
    obtain ⟨hs, hok⟩ := List.forall_mem_cons.1 hok
    simp only [List.length_cons] at hk
    simp only [List.map_cons, recordsFrom, List.length_append, List.append_assoc]
    exact SeqRecords.cons (hs.read o (by omega) _) (encRecord_length k t s)
      (ih (pre ++ encRecord k t s) (k + 1) hok (by omega))

/-- every record takes at least the 8 bytes of its header -/
theorem SeqRecords.length_le {o : Orient} {tg : Target} {data : Bytes} {flen : Nat} :
    ∀ {p : Nat} {shapes : List Shape}, SeqRecords o tg data flen p shapes → shapes.length ≤ data.length - p
  | _, [], _ => Nat.zero_le _
  | _, _ :: _, ⟨_, _, _, _, _, _, h⟩ => by have := h.length_le; simp only [List.length_cons]; omega

theorem open_seq (o : Orient) (tg : Target) (h : Header) (body extra : Bytes) (shapes : List Shape)
    (hfl : InI32 h.fileLength) (hv : InI32 h.version) (hlen : 2 * h.fileLength = (100 + body.length : Nat))
    (hseq : SeqRecords o tg (h.enc ++ (body ++ extra)) (h.enc.length + body.length) h.enc.length shapes) :
    ∃ st, RState.open (h.enc ++ (body ++ extra)) none = .ok st ∧ SInv o tg shapes st := by
  refine ⟨_, RState.open_none (readHeader_enc h hfl hv (body ++ extra)), rfl, rfl, by simp only; omega, ?_⟩
  rw [Header.enc_length] at hseq
  rwa [show (2 * h.fileLength).toNat = 100 + body.length by omega]

theorem open_written_noindex (o : Orient) (tg : Target) (ss : List Shape) (h : FileOK tg ss) (extra : Bytes) :
    ∃ st, RState.open (shpFile ss ++ extra) none = .ok st ∧ SInv o tg (ss.map (Shape.readBack o)) st := by
  have hh := finalHeader_inI32 ss h.total
  rw [shpFile, List.append_assoc]
  exact open_seq o tg (finalHeader ss) _ extra _ hh.1 hh.2 (by rw [recordsFrom_length]; simp only [finalHeader]; omega)
    (seqRecords_records o tg (fileTypeOf ss) ss (finalHeader ss).enc extra 1 h.recOK h.count)

end Shp
