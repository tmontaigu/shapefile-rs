/- IEEE comparisons modelled on bit patterns; folds that select an extreme value, and the
constructors' box folds read as such folds, one coordinate at a time;
constructor totality (`fromParts_some`, …); `Pt.peq`. -/
import Shp.Model.Construct
namespace Shp
namespace F64

theorem lt_iff {a b : F64} : a.lt b = true ↔ a.isNaN = false ∧ b.isNaN = false ∧ a.key < b.key := by
  simp [lt, and_assoc]
theorem le_iff {a b : F64} : a.le b = true ↔ a.isNaN = false ∧ b.isNaN = false ∧ a.key ≤ b.key := by
  simp [le, and_assoc]
theorem feq_iff {a b : F64} : a.feq b = true ↔ a.isNaN = false ∧ b.isNaN = false ∧ a.key = b.key := by
  simp [feq, and_assoc]

/-! On non-NaN values IEEE `<=` is a total preorder (the order of `key`) and `<` its strict part:
all that the min/max folds need. -/

theorem le_refl {a : F64} (ha : a.isNaN = false) : a.le a = true :=
  le_iff.mpr ⟨ha, ha, Int.le_refl _⟩
theorem le_of_lt {a b : F64} (h : a.lt b = true) : a.le b = true :=
  have ⟨ha, hb, hk⟩ := lt_iff.mp h
  le_iff.mpr ⟨ha, hb, Int.le_of_lt hk⟩
theorem le_of_not_lt {a b : F64} (ha : a.isNaN = false) (hb : b.isNaN = false) (h : ¬ a.lt b = true) :
    b.le a = true :=
  le_iff.mpr ⟨hb, ha, Int.not_lt.mp fun hk => h (lt_iff.mpr ⟨ha, hb, hk⟩)⟩
theorem le_trans {a b c : F64} (h1 : a.le b = true) (h2 : b.le c = true) : a.le c = true :=
  have ⟨ha, _, k1⟩ := le_iff.mp h1
  have ⟨_, hc, k2⟩ := le_iff.mp h2
  le_iff.mpr ⟨ha, hc, Int.le_trans k1 k2⟩

theorem feq_refl (a : F64) (h : a.isNaN = false) : a.feq a = true := feq_iff.mpr ⟨h, h, rfl⟩
theorem feq_symm (a b : F64) : a.feq b = b.feq a := by
  have swap {a b : F64} (h : a.feq b = true) : b.feq a = true :=
    have ⟨ha, hb, hk⟩ := feq_iff.mp h
    feq_iff.mpr ⟨hb, ha, hk.symm⟩
  exact Bool.eq_iff_iff.mpr ⟨swap, swap⟩

theorem fmin_sel {a b : F64} (ha : a.isNaN = false) (hb : b.isNaN = false) :
    fmin a b = a ∧ a.le b = true ∨ fmin a b = b ∧ b.le a = true := by
  unfold fmin; split
  next h => exact .inl ⟨rfl, le_of_lt h⟩
  next h => exact .inr ⟨rfl, le_of_not_lt ha hb h⟩
theorem fmax_sel {a b : F64} (ha : a.isNaN = false) (hb : b.isNaN = false) :
    fmax a b = a ∧ b.le a = true ∨ fmax a b = b ∧ a.le b = true := by
  unfold fmax; split
  next h => exact .inl ⟨rfl, le_of_lt h⟩
  next h => exact .inr ⟨rfl, le_of_not_lt hb ha h⟩

theorem bits_eq_sign_mag (a : F64) : a.bits.toNat = (if a.sign then 9223372036854775808 else 0) + a.mag := by
  have := a.bits.toNat_lt
  simp only [sign, mag, decide_eq_true_eq]
  split
  next h => rw [Nat.mod_eq_sub_mod h, Nat.mod_eq_of_lt (by omega)]; omega
  next h => rw [Nat.mod_eq_of_lt (by omega)]; omega

/-- away from ±0 the order key determines the bit pattern -/
theorem eq_of_key_eq {a b : F64} (h : a.key = b.key) (h0 : a.key ≠ 0) : a = b := by
  have : a.bits.toNat = b.bits.toNat := by
    rw [bits_eq_sign_mag a, bits_eq_sign_mag b]
    unfold key at h h0
    revert h h0
    cases a.sign <;> cases b.sign <;> simp only [if_true, if_false, Bool.false_eq_true] <;> omega
  cases a; cases b
  exact congrArg mk (UInt64.toNat_inj.mp this)

theorem key_bounds {x : F64} (hx : x.isNaN = false) : negInf.key ≤ x.key ∧ x.key ≤ posInf.key := by
  have h1 : negInf.key = -9218868437227405312 := by decide
  have h2 : posInf.key = 9218868437227405312 := by decide
  unfold isNaN at hx
  rw [h1, h2]
  unfold key
  split <;> simp only [decide_eq_false_iff_not] at hx <;> omega

theorem posInf_notNaN : posInf.isNaN = false := by decide
theorem negInf_notNaN : negInf.isNaN = false := by decide

end F64

theorem Pt.peq_symm (d : Dim) (a b : Pt) : Pt.peq d a b = Pt.peq d b a := by
  simp only [Pt.peq, F64.feq_symm a.x, F64.feq_symm a.y, F64.feq_symm a.z, F64.feq_symm a.m]

theorem Pt.peq_refl (d : Dim) (p : Pt) (h : p.x.isNaN = false ∧ p.y.isNaN = false ∧
    (d.hasZ = true → p.z.isNaN = false) ∧ (d.hasM = true → p.m.isNaN = false)) : Pt.peq d p p = true := by
  obtain ⟨hx, hy, hz, hm⟩ := h
  have opt (c : Bool) (v : F64) (h : c = true → v.isNaN = false) : (!c || v.feq v) = true := by
    cases c
    · rfl
    · exact F64.feq_refl v (h rfl)
  simp only [Pt.peq, F64.feq_refl _ hx, F64.feq_refl _ hy, opt _ _ hz, opt _ _ hm, Bool.and_self]

/-- exact minimum: bit-identical to one of `vals`, IEEE-`<=` all of them -/
def IsMin (v : F64) (vals : List F64) : Prop := v ∈ vals ∧ ∀ x ∈ vals, v.le x = true
def IsMax (v : F64) (vals : List F64) : Prop := v ∈ vals ∧ ∀ x ∈ vals, x.le v = true

def NoNaN (vals : List F64) : Prop := ∀ x ∈ vals, x.isNaN = false

theorem IsMin.le_isMax {lo hi : F64} {vals : List F64} (hmin : IsMin lo vals) (hmax : IsMax hi vals) (hne : vals ≠ []) :
    lo.le hi = true := by
  obtain ⟨v, vs, rfl⟩ := List.exists_cons_of_ne_nil hne
  exact F64.le_trans (hmin.2 v List.mem_cons_self) (hmax.2 v List.mem_cons_self)

/-- Every box fold is this one: `r` is IEEE `<=` or `>=`, `P` is non-NaN, the step `fmin` or `fmax`
with its arguments in either order. -/
theorem foldl_select {α : Type} {P : α → Prop} (r : α → α → Prop) {f : α → α → α}
    (hsel : ∀ a b, P a → P b → f a b = a ∧ r a b ∨ f a b = b ∧ r b a)
    (rtrans : ∀ a b c, r a b → r b c → r a c)
    (l : List α) (a : α) (hP : ∀ x ∈ a :: l, P x) :
    l.foldl f a ∈ a :: l ∧ ∀ x ∈ a :: l, r (l.foldl f a) x := by
  induction l generalizing a with
  | nil =>
    have ha := hP a List.mem_cons_self
    have hra : r a a := (hsel a a ha ha).elim And.right And.right
    exact ⟨List.mem_cons_self, List.forall_mem_singleton.mpr hra⟩
  | cons b l ih =>
    simp only [List.forall_mem_cons] at hP ih ⊢
    obtain ⟨ha, hb, hl⟩ := hP
    rw [List.foldl_cons]
    -- go on from the selected argument; the other is `r`-above it
    rcases hsel a b ha hb with ⟨e, hab⟩ | ⟨e, hba⟩ <;> rw [e]
    · obtain ⟨hm, hra, hle⟩ := ih a ⟨ha, hl⟩
      exact ⟨List.cons_subset_cons a (List.subset_cons_self b l) hm, hra, rtrans _ _ _ hra hab, hle⟩
    · obtain ⟨hm, hrb, hle⟩ := ih b ⟨hb, hl⟩
      exact ⟨List.mem_cons_of_mem a hm, rtrans _ _ _ hrb hba, hrb, hle⟩

/-- for the header's ±inf sentinels `s`: the starting value can be left out of the values -/
theorem select_of_sentinel {α : Type} (r : α → α → Prop) {v s : α} {vals : List α} (hne : vals ≠ [])
    (hs : ∀ x ∈ vals, r s x → x = s) (h : v ∈ s :: vals ∧ ∀ x ∈ s :: vals, r v x) :
    v ∈ vals ∧ ∀ x ∈ vals, r v x := by
  refine ⟨?_, fun x hx => h.2 x (List.mem_cons_of_mem _ hx)⟩
  rcases List.mem_cons.mp h.1 with rfl | hv
  · obtain ⟨x, xs, rfl⟩ := List.exists_cons_of_ne_nil hne
    have hx := hs x List.mem_cons_self (h.2 x (List.mem_cons_of_mem _ List.mem_cons_self))
    rw [← hx]; exact List.mem_cons_self
  · exact hv

theorem foldl_fmin_isMin (l : List F64) (a : F64) (h : NoNaN (a :: l)) :
    IsMin (l.foldl F64.fmin a) (a :: l) ∧ (l.foldl F64.fmin a).isNaN = false :=
  have hm := foldl_select (fun a b : F64 => a.le b = true) (fun _ _ => F64.fmin_sel) (fun _ _ _ => F64.le_trans) l a h
  ⟨hm, h _ hm.1⟩

theorem foldl_fmax_isMax (l : List F64) (a : F64) (h : NoNaN (a :: l)) :
    IsMax (l.foldl F64.fmax a) (a :: l) ∧ (l.foldl F64.fmax a).isNaN = false :=
  have hm := foldl_select (fun a b : F64 => b.le a = true) (fun _ _ => F64.fmax_sel)
    (fun _ _ _ h1 h2 => F64.le_trans h2 h1) l a h
  ⟨hm, h _ hm.1⟩

/-- with `pa`, `pb` reading one coordinate, a `shrink` / `grow` / `growFromShape` fold is an `fmin` / `fmax` fold -/
theorem foldl_proj {α β γ δ : Type} (pa : α → γ) (pb : β → δ) {g : α → β → α} {op : γ → δ → γ}
    (h : ∀ a b, pa (g a b) = op (pa a) (pb b)) (l : List β) (a : α) :
    pa (l.foldl g a) = (l.map pb).foldl op (pa a) := by
  rw [List.foldl_map]; exact (List.foldl_hom pa fun x y => (h x y).symm).symm

theorem foldl_keep {α β γ : Type} (pa : α → γ) {g : α → β → α} (h : ∀ a b, pa (g a b) = pa a) (l : List β) (a : α) :
    pa (l.foldl g a) = pa a := by
  induction l generalizing a with
  | nil => rfl
  | cons b l ih => rw [List.foldl_cons, ih, h]

/-- The box theorems speak of one coordinate at a time and are the same for all four: `get` selects
it, `on` says whether a point or file type with the flags `hasZ`, `hasM` carries it (X and Y always). -/
inductive Coord
  | x | y | z | m

namespace Coord

def get : Coord → Pt → F64
  | x, p => p.x
  | y, p => p.y
  | z, p => p.z
  | m, p => p.m

def on : Coord → (hasZ hasM : Bool) → Bool
  | z, hasZ, _ => hasZ
  | m, _, hasM => hasM
  | _, _, _ => true

theorem shrink_grow (k : Coord) (d : Dim) (hk : k.on d.hasZ d.hasM = true) (a b : Pt) :
    k.get (Pt.shrink d a b) = F64.fmin (k.get a) (k.get b) ∧ k.get (Pt.grow d a b) = F64.fmax (k.get a) (k.get b) := by
  cases k <;> simp only [get, on, Pt.shrink, Pt.grow, and_self] at hk ⊢
  -- that settles X and Y; Z and M are guarded by the flag `hk` is about
  all_goals exact ⟨if_pos hk, if_pos hk⟩

end Coord

theorem foldl_shrink_grow_exact (k : Coord) (d : Dim) (hk : k.on d.hasZ d.hasM = true)
    (p : Pt) (ps : List Pt) (hn : NoNaN ((p :: ps).map k.get)) :
    IsMin (k.get (ps.foldl (Pt.shrink d) p)) ((p :: ps).map k.get) ∧
    IsMax (k.get (ps.foldl (Pt.grow d) p)) ((p :: ps).map k.get) := by
  rw [foldl_proj k.get k.get fun a b => (k.shrink_grow d hk a b).1, foldl_proj k.get k.get fun a b => (k.shrink_grow d hk a b).2]
  exact ⟨(foldl_fmin_isMin _ _ hn).1, (foldl_fmax_isMax _ _ hn).1⟩

theorem foldl_growFromPoints (d : Dim) (b : BBox) (parts : List (List Pt)) :
    parts.foldl (BBox.growFromPoints d) b = BBox.growFromPoints d b parts.flatten := by
  induction parts generalizing b with
  | nil => rfl
  | cons p ps ih => rw [List.foldl_cons, ih]; simp [BBox.growFromPoints, List.foldl_append]

theorem fromParts_eq (d : Dim) (p : Pt) (ps : List Pt) (rest : List (List Pt)) :
    BBox.fromParts d ((p :: ps) :: rest) =
      some ⟨(ps ++ rest.flatten).foldl (Pt.shrink d) p, (ps ++ rest.flatten).foldl (Pt.grow d) p⟩ := by
  simp [BBox.fromParts, BBox.fromPoints, foldl_growFromPoints, BBox.growFromPoints, List.foldl_append]

theorem fromParts_some (d : Dim) (p : List Pt) (rest : List (List Pt)) (hp : p ≠ []) :
    ∃ b, BBox.fromParts d (p :: rest) = some b := by
  obtain ⟨q, qs, rfl⟩ := List.exists_cons_of_ne_nil hp
  exact ⟨_, fromParts_eq d q qs rest⟩

theorem Shape.mkMultipoint_some (d : Dim) (pts : List Pt) (hne : pts ≠ []) :
    ∃ b, Shape.mkMultipoint d pts = some (.multipoint d b pts) := by
  obtain ⟨a, as, rfl⟩ := List.exists_cons_of_ne_nil hne
  exact ⟨_, rfl⟩

theorem Shape.mkPolyline_some (d : Dim) (l : List Pt) (h2 : 2 ≤ l.length) :
    ∃ b, Shape.mkPolyline d l = some (.polyline d b [l]) := by
  obtain ⟨q, qs, rfl⟩ := List.exists_cons_of_ne_nil (List.ne_nil_of_length_pos (Nat.lt_of_lt_of_le Nat.zero_lt_two h2))
  exact ⟨_, by rw [Shape.mkPolyline, if_neg (Nat.not_lt.mpr h2)]; rfl⟩

theorem Shape.mkPolylineParts_some (d : Dim) (parts : List (List Pt)) (hne : parts ≠ []) (h2 : ∀ l ∈ parts, 2 ≤ l.length) :
    ∃ b, Shape.mkPolylineParts d parts = some (.polyline d b parts) := by
  have hany : (parts.any fun p => decide (p.length < 2)) = false :=
    List.any_eq_false.mpr fun l hl => by simpa using h2 l hl
  obtain ⟨l0, rest, rfl⟩ := List.exists_cons_of_ne_nil hne
  obtain ⟨b, hb⟩ := fromParts_some d l0 rest
    (List.ne_nil_of_length_pos (Nat.lt_of_lt_of_le Nat.zero_lt_two (h2 l0 List.mem_cons_self)))
  exact ⟨b, by rw [Shape.mkPolylineParts, hany, hb]; rfl⟩

end Shp
