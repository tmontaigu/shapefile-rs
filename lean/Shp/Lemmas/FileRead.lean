/-
The record stream the writer lays out, and any byte-prefix of it, as a reader meets it: the first
record (`readOneShape_stream`) and the record an index entry leads to (`entry_cut_stream`) are read
back whole or are the I/O error.  Uncut, the written `.shp` is addressed by the written `.shx`.
-/
import Shp.Lemmas.Frame
import Shp.Lemmas.ReaderIdx
import Shp.Lemmas.Cut
namespace Shp
open Dec

/-- what `write_shape` and a reader for `tg` ask of the whole list; `sized` and `total` are the limits
of the format's `i32` length fields -/
structure FileOK (tg : Target) (ss : List Shape) : Prop where
  homog : Homog ss
  sized : ∀ s ∈ ss, s.Sized
  nonnull : ∀ s ∈ ss, s ≠ .null
  accepts : ∀ s ∈ ss, tg.Accepts s.writeType
  total : 50 + totalWords ss < 2147483648

/-- a shape whose record a reader for `tg` decodes from a file of type `t` -/
structure RecOK (tg : Target) (t : ShapeType) (s : Shape) : Prop where
  sized : s.Sized
  type : s.writeType = t
  accepts : tg.Accepts s.writeType

theorem RecOK.of {tg : Target} {t : ShapeType} {ss : List Shape}
    (hsz : ∀ s ∈ ss, s.Sized) (hty : ∀ s ∈ ss, s.writeType = t)
    (hacc : ∀ s ∈ ss, tg.Accepts s.writeType) : ∀ s ∈ ss, RecOK tg t s :=
  fun s h => ⟨hsz s h, hty s h, hacc s h⟩

theorem RecOK.read {tg : Target} {t : ShapeType} {s : Shape} (h : RecOK tg t s) (o : Orient) {k : Nat}
    (hk : k < 2147483648) (r : Bytes) :
    readOneShape o tg (encRecord k t s ++ r) = .ok ((recordSizeWords s : Int), s.readBack o) r :=
  h.type ▸ readOneShape_encRecord' o tg r (by unfold InI32; omega) h.sized h.accepts

theorem FileOK.recOK {tg : Target} {ss : List Shape} (h : FileOK tg ss) : ∀ s ∈ ss, RecOK tg (fileTypeOf ss) s :=
  RecOK.of h.sized h.homog.types h.accepts

theorem FileOK.count {tg : Target} {ss : List Shape} (h : FileOK tg ss) : 1 + ss.length < 2147483648 :=
  count_of_total h.total

theorem recordsFrom_length (t : ShapeType) (k : Nat) (ss : List Shape) :
    (recordsFrom t k ss).length = 2 * totalWords ss := by
  induction ss generalizing k with
  | nil => rfl
  | cons s ss ih =>
    simp only [recordsFrom, List.length_append, encRecord_length, ih, totalWords]
    omega

theorem recordsFrom_drop (t : ShapeType) (k : Nat) (ss : List Shape) (i : Nat) :
    (recordsFrom t k ss).drop (2 * totalWords (ss.take i)) = recordsFrom t (k + i) (ss.drop i) := by
  by_cases hi : i ≤ ss.length
  · have h := recordsFrom_append t k (ss.take i) (ss.drop i)
    rw [List.take_append_drop, List.length_take, Nat.min_eq_left hi] at h
    rw [h, ← recordsFrom_length t k (ss.take i), List.drop_left]
  · rw [List.take_of_length_le (by omega), List.drop_of_length_le (l := ss) (by omega), ← recordsFrom_length t k ss,
      List.drop_length]
    rfl

theorem totalWords_take_succ (ss : List Shape) (i : Nat) (hi : i < ss.length) :
    totalWords (ss.take (i + 1)) = totalWords (ss.take i) + recordSizeWords ss[i] + 4 := by
  rw [List.take_succ_eq_append_getElem hi, totalWords_append]
  simp only [totalWords, Nat.add_zero, Nat.add_assoc]

theorem recordsFrom_take_whole (t : ShapeType) (k : Nat) (s : Shape) (ss : List Shape) {avail : Nat}
    (hfit : 8 + 2 * recordSizeWords s ≤ avail) :
    (recordsFrom t k (s :: ss)).take avail =
      encRecord k t s ++ (recordsFrom t (k + 1) ss).take (avail - (8 + 2 * recordSizeWords s)) := by
  have hL := encRecord_length (k : Int) t s
  rw [recordsFrom, List.take_append, List.take_of_length_le (by omega), hL]

theorem readOneShape_stream (o : Orient) (tg : Target) {t : ShapeType} {s : Shape} (ss : List Shape) (k avail : Nat)
    (h : RecOK tg t s) (hk : k < 2147483648) :
    readOneShape o tg ((recordsFrom t k (s :: ss)).take avail) =
      if 8 + 2 * recordSizeWords s ≤ avail then
        .ok ((recordSizeWords s : Int), s.readBack o) ((recordsFrom t (k + 1) ss).take (avail - (8 + 2 * recordSizeWords s)))
      else .err .io := by
  split
  next hfit => rw [recordsFrom_take_whole t k s ss hfit]; exact h.read o hk _
  next hcut =>
    have hL := encRecord_length (k : Int) t s
    rw [recordsFrom, List.take_append_of_le_length (by omega)]
    exact (readOneShape_stable o tg).take_io (h.read o hk) (by omega)

theorem RecordAt.of_drop {o : Orient} {tg : Target} {s : Shape} {data b post : Bytes} {w : Nat} {e : IndexEntry}
    (hoff : 0 ≤ e.offset)
    (hdrop : data.drop (2 * e.offset).toNat = b ++ post)
    (hread : readOneShape o tg (b ++ post) = .ok ((w : Int), s) post) (hlen : b.length = 8 + 2 * w) :
    RecordAt o tg data e s :=
  ⟨hoff, w, post, hdrop.symm ▸ hread, Int.natCast_nonneg w, record_end hdrop hlen⟩

theorem entry_cut_stream (o : Orient) (tg : Target) {t : ShapeType} {ss : List Shape} (pre : Bytes) {k off : Nat} (n : Nat)
    (hpre : pre.length = 2 * off) (hok : ∀ s ∈ ss, RecOK tg t s) (hk : k + ss.length < 2147483648)
    {i : Nat} (hi : i < ss.length) (h1 : i < (indexEntriesFrom off ss).length) :
    if 8 + 2 * recordSizeWords ss[i] ≤ n - 2 * totalWords (ss.take i) then
      RecordAt o tg (pre ++ (recordsFrom t k ss).take n) (indexEntriesFrom off ss)[i] (ss[i].readBack o)
    else 0 ≤ (indexEntriesFrom off ss)[i].offset ∧
      readOneShape o tg ((pre ++ (recordsFrom t k ss).take n).drop (2 * (indexEntriesFrom off ss)[i].offset).toNat) =
        .err .io := by
  rw [indexEntriesFrom_getElem off ss i hi]
  have hdrop : (pre ++ (recordsFrom t k ss).take n).drop (2 * ((off : Int) + totalWords (ss.take i))).toNat =
      (recordsFrom t (k + i) (ss[i] :: ss.drop (i + 1))).take (n - 2 * totalWords (ss.take i)) := by
    rw [show (2 * ((off : Int) + totalWords (ss.take i))).toNat = pre.length + 2 * totalWords (ss.take i) by omega,
      List.drop_length_add_append, List.drop_take, recordsFrom_drop, List.drop_eq_getElem_cons hi]
  have hrec := hok _ (List.getElem_mem hi)
  split
  next hfit =>
    exact RecordAt.of_drop (by simp only; omega) (hdrop.trans (recordsFrom_take_whole _ _ _ _ hfit))
      (hrec.read o (by omega) _) (encRecord_length _ _ _)
  next hcut => exact ⟨by simp only; omega, by rw [hdrop, readOneShape_stream o tg _ _ _ hrec (by omega), if_neg hcut]⟩

theorem addressable_records (o : Orient) (tg : Target) (t : ShapeType) (ss : List Shape) (pre : Bytes) (k off : Nat)
    (hpre : pre.length = 2 * off) (hok : ∀ s ∈ ss, RecOK tg t s) (hk : k + ss.length < 2147483648) :
    Addressable o tg (pre ++ recordsFrom t k ss) (indexEntriesFrom off ss) (ss.map (Shape.readBack o)) := by
  refine ⟨by simp, fun i h1 h2 => ?_⟩
  have hi : i < ss.length := by simpa using h2
  have h := entry_cut_stream o tg pre (recordsFrom t k ss).length hpre hok hk hi h1
  have h3 := totalWords_take_succ ss i hi
  have h4 := totalWords_append (ss.take (i + 1)) (ss.drop (i + 1))
  rw [List.take_append_drop] at h4
  rw [List.take_length, recordsFrom_length, if_pos (by omega)] at h
  rwa [List.getElem_map]

theorem addressable_shpFile (o : Orient) (tg : Target) (ss : List Shape) (h : FileOK tg ss) :
    Addressable o tg (shpFile ss) (indexEntriesFrom 50 ss) (ss.map (Shape.readBack o)) :=
  addressable_records o tg (fileTypeOf ss) ss (finalHeader ss).enc 1 50 (Header.enc_length _) h.recOK h.count

theorem finalHeader_inI32 (ss : List Shape) (h : 50 + totalWords ss < 2147483648) :
    InI32 (finalHeader ss).fileLength ∧ InI32 (finalHeader ss).version := by
  unfold InI32 finalHeader; simp only; omega

theorem readHeader_finalHeader (ss : List Shape) (h : 50 + totalWords ss < 2147483648) (rest : Bytes) :
    readHeader ((finalHeader ss).enc ++ rest) = .ok (finalHeader ss) rest :=
  have hh := finalHeader_inI32 ss h
  readHeader_enc _ hh.1 hh.2 rest

theorem written_pair (o : Orient) (tg : Target) (ss : List Shape) (h : FileOK tg ss) :
    readIndexFile (shxFile ss) = .ok (indexEntriesFrom 50 ss) [] ∧
    readHeader (shpFile ss) = .ok (finalHeader ss) (recordsFrom (fileTypeOf ss) 1 ss) ∧
    Addressable o tg (shpFile ss) (indexEntriesFrom 50 ss) (ss.map (Shape.readBack o)) :=
  ⟨readIndexFile_shxFile ss h.total, readHeader_finalHeader ss h.total _, addressable_shpFile o tg ss h⟩

theorem open_written (o : Orient) (tg : Target) (ss : List Shape) (h : FileOK tg ss) :
    ∃ st, RState.open (shpFile ss) (some (shxFile ss)) = .ok st ∧ RInv o tg (ss.map (Shape.readBack o)) st ∧
      st.nextShape = 0 :=
  let ⟨hx, hh, ha⟩ := written_pair o tg ss h
  open_addressable o tg _ _ _ _ _ _ _ hx hh ha

end Shp
