/-
Writer histories on healthy destinations: which shapes a history accepts (`acceptStep`), the
invariant lifted to every call sequence (`WInv.run`), and what a call in a reachable state issues to
each destination (`WInv.call_ops`, the case analysis the crash theorems read).
-/
import Shp.Lemmas.Writer
namespace Shp

def acceptStep (ss : List Shape) : WCall → List Shape
  | .finalize => ss
  | .writeShape s => if accepts ss s then ss ++ [s] else ss

def acceptedOf (cs : List WCall) : List Shape := cs.foldl acceptStep []

def keptFrom (ss : List Shape) : List WCall → List WCall
  | [] => []
  | .finalize :: cs => .finalize :: keptFrom ss cs
  | .writeShape s :: cs => if accepts ss s then .writeShape s :: keptFrom (ss ++ [s]) cs else keptFrom ss cs

/-- histories that never offer a shape of type `NullShape` (none of the crate's own shape types is
one; a user-defined `EsriShape` can be).  Such a shape leaves the file without a type, so the next
`write_shape` takes its `(NullShape, t)` arm again and writes header and record over what is there:
the file is not `header ++ records`. -/
def NonNullCalls (cs : List WCall) : Prop := ∀ c ∈ cs, c ≠ .writeShape .null

theorem NonNullCalls.left {a b : List WCall} (h : NonNullCalls (a ++ b)) : NonNullCalls a :=
  fun c hc => h c (List.mem_append_left _ hc)

theorem NonNullCalls.tail {c : WCall} {cs : List WCall} (h : NonNullCalls (c :: cs)) : NonNullCalls cs :=
  fun x hx => h x (List.mem_cons_of_mem _ hx)

theorem acceptedOf_concat (cs : List WCall) (c : WCall) : acceptedOf (cs ++ [c]) = acceptStep (acceptedOf cs) c := by
  simp [acceptedOf, List.foldl_append]

theorem WInv.plan_rejected {w : World} {ss : List Shape} (h : WInv w ss) {s : Shape} (ha : ¬ accepts ss s) :
    plan w.st (.writeShape s) = .error (.mismatch (fileTypeOf ss) s.writeType) := by
  rw [← h.shapeType]
  exact plan_write_refused (mt (h.accepts_iff s).2 ha)

theorem WInv.call_rejected {w : World} {ss : List Shape} (h : WInv w ss) {s : Shape} (ha : ¬ accepts ss s) :
    w.call (.writeShape s) = (w, .error (.mismatch (fileTypeOf ss) s.writeType)) :=
  World.call_of_error (h.plan_rejected ha)

/-- what a call issues to a destination that is there: nothing (a refused write, a clean finalize),
the header rewrite of a dirty `finalize`, or the `writeOps` of an accepted shape -/
theorem WInv.call_ops {w : World} {ss : List Shape} (h : WInv w ss) (c : WCall) (d : DestId) (hd : w.st.has d = true) :
    (acceptStep ss c = ss ∧ callOps d w c = []) ∨
    (acceptStep ss c = ss ∧ callOps d w c = finalizeOps (w.st.finalHeader d).enc) ∨
    (∃ s, accepts ss s ∧ acceptStep ss c = ss ++ [s] ∧
      callOps d w c = writeOps (w.st.header.shapeType = .nullShape) (firstHeader w.st s).enc (w.st.chunk s d)) := by
  cases c with
  | finalize =>
    rw [callOps_of_plan (p := planFinalize w.st) rfl]
    cases hdy : w.st.dirty
    · rw [planFinalize_clean hdy]
      exact .inl ⟨rfl, rfl⟩
    · rw [opsFor_planFinalize hdy, if_pos hd]
      exact .inr (.inl ⟨rfl, rfl⟩)
  | writeShape s =>
    by_cases ha : accepts ss s
    · rw [callOps_of_plan (plan_write_accepted ((h.accepts_iff s).1 ha)), opsFor_writePlan, if_pos hd, acceptStep, if_pos ha]
      exact .inr (.inr ⟨s, ha, rfl, rfl⟩)
    · exact .inl ⟨by rw [acceptStep, if_neg ha], callOps_of_error (h.plan_rejected ha) _⟩

/-- `call_ops` for a .shp holding a record: the write is a plain append -/
theorem WInv.call_ops_shp {w : World} {ss : List Shape} (h : WInv w ss) (hne : ss ≠ []) (c : WCall) :
    (acceptStep ss c = ss ∧ callOps .shp w c = []) ∨
    (acceptStep ss c = ss ∧ callOps .shp w c = finalizeOps (finalHeader ss).enc) ∨
    (∃ s, acceptStep ss c = ss ++ [s] ∧
      callOps .shp w c = [.write (encRecord (ss.length + 1 : Nat) (fileTypeOf ss) s)]) := by
  rcases h.call_ops c .shp rfl with h' | h' | ⟨s, hs, ha, ho⟩
  · exact .inl h'
  · exact .inr (.inl (h.toW.finalHeader_eq ▸ h'))
  · exact .inr (.inr ⟨s, ha, by rw [ho, writeOps_next (mt h.null_iff.1 hne), WState.chunk, h.recNum, hs.resolve_left hne]⟩)

theorem WInv.call {w : World} {ss : List Shape} (h : WInv w ss) (c : WCall) (hc : c ≠ .writeShape .null) :
    WInv (w.call c).1 (acceptStep ss c) := by
  cases c with
  | finalize => exact h.finalize.2.1
  | writeShape s =>
    by_cases ha : accepts ss s
    · rw [acceptStep, if_pos ha]
      exact (h.write s (s.writeType_ne_null fun e => hc (e ▸ rfl)) ha).2.1
    · rwa [acceptStep, if_neg ha, h.call_rejected ha]

theorem WInv.run {w : World} {ss : List Shape} (h : WInv w ss) (cs : List WCall) (hc : NonNullCalls cs) :
    WInv (w.run cs) (cs.foldl acceptStep ss) ∧ (w.run cs).st.hasShx = w.st.hasShx := by
  refine ⟨?_, w.run_hasShx cs⟩
  induction cs generalizing w ss with
  | nil => exact h
  | cons c cs ih =>
    exact ih (h.call c (hc c List.mem_cons_self)) hc.tail

theorem WInv.drop {w : World} {ss : List Shape} (h : WInv w ss) :
    w.drop.shp.data = shpFile ss ∧ (w.st.hasShx = true → w.drop.shx.data = shxFile ss) ∧
    (w.st.hasShx = false → w.drop.shx.data = []) := by
  obtain ⟨_, hinv, hclean, hx⟩ := h.finalize
  refine ⟨(hinv.clean hclean).1, fun hs => (hinv.clean hclean).2 (hx.trans hs), fun hs => ?_⟩
  exact congrArg Dst.data (hinv.shxEmpty (hx.trans hs))

theorem WInv.files {w : World} {ss : List Shape} (h : WInv w ss) :
    (w.drop.shp.data, w.drop.shx.data) = (shpFile ss, if w.st.hasShx then shxFile ss else []) := by
  cases hx : w.st.hasShx
  · rw [h.drop.1, h.drop.2.2 hx]
    rfl
  · rw [h.drop.1, h.drop.2.1 hx]
    rfl

theorem WInv.reachable (hasShx : Bool) (cs : List WCall) (hc : NonNullCalls cs) :
    WInv ((World.init hasShx).run cs) (acceptedOf cs) :=
  ((WInv.init hasShx).run cs hc).1

theorem foldl_acceptStep_prefix (ss : List Shape) (cs : List WCall) : ∃ more, cs.foldl acceptStep ss = ss ++ more := by
  induction cs generalizing ss with
  | nil => exact ⟨[], by simp⟩
  | cons c cs ih =>
    obtain ⟨more, hm⟩ := ih (acceptStep ss c)
    simp only [List.foldl_cons, hm]
    cases c with
    | finalize => exact ⟨more, rfl⟩
    | writeShape s =>
      by_cases ha : accepts ss s
      · exact ⟨[s] ++ more, by simp [acceptStep, ha]⟩
      · exact ⟨more, by simp [acceptStep, ha]⟩

theorem foldl_acceptStep_writes (pre rest : List Shape) (h : Homog (pre ++ rest)) :
    (rest.map WCall.writeShape).foldl acceptStep pre = pre ++ rest := by
  induction rest generalizing pre with
  | nil => simp
  | cons s rest ih =>
    have hacc : accepts pre s := by
      cases pre with
      | nil => exact Or.inl rfl
      | cons a as => exact Or.inr (h.2 s (by simp)).symm
    rw [List.map_cons, List.foldl_cons, acceptStep, if_pos hacc, ih _ (by simpa using h)]
    simp

theorem acceptedOf_writes (ss : List Shape) (h : Homog ss) : acceptedOf (ss.map .writeShape) = ss := by
  simpa [acceptedOf] using foldl_acceptStep_writes [] ss (by simpa using h)

theorem Homog.nonNullCalls {ss : List Shape} (h : Homog ss) : NonNullCalls (ss.map .writeShape) := by
  intro c hc
  obtain ⟨s, hs, rfl⟩ := List.mem_map.1 hc
  exact fun e => h.ne_null hs (WCall.writeShape.inj e)

/-- the strongest form of C09: any history leaves, after drop, the files that writing its accepted
shapes and dropping leaves -/
theorem history_eq_writeFiles (hasShx : Bool) (cs : List WCall) (hc : NonNullCalls cs) :
    (((World.init hasShx).run cs).drop.shp.data, ((World.init hasShx).run cs).drop.shx.data) =
      writeFiles hasShx (acceptedOf cs) := by
  have h := WInv.reachable hasShx cs hc
  have h' := WInv.reachable hasShx _ h.homog.nonNullCalls
  rw [acceptedOf_writes _ h.homog] at h'
  have e := h.files
  have e' := h'.files
  rw [World.run_hasShx] at e e'
  exact e.trans e'.symm

end Shp
