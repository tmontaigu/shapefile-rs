/-
A reader without index on a byte-prefix of the record stream the writer lays out, under ANY declared
length: what it yields (`seqOuts`, `iterAll_stream`).  Truncation (C13) and a crash (C11) are
statements about `seqOuts`; durability (C11, last sentence) assumes nothing of the records behind
the committed ones and uses the single step `AtStream.whole`.
-/
import Shp.Lemmas.ReaderSeq
namespace Shp
open Dec

/-- what a reader without index yields from byte `p` on, when the header declares `D` bytes and the
source holds, from `p`, the first `avail` bytes of the records of `ss`: the records wholly there, as
long as they start before `D`; then one I/O error if the source ends before `D` does -/
def seqOuts (o : Orient) (D : Nat) : Nat → List Shape → Nat → List ROut
  | p, [], _ => if D ≤ p then [] else [.err .io]
  | p, s :: ss, avail =>
    if D ≤ p then [] else
    if 8 + 2 * recordSizeWords s ≤ avail then
      .shape (s.readBack o) :: seqOuts o D (p + (8 + 2 * recordSizeWords s)) ss (avail - (8 + 2 * recordSizeWords s))
    else [.err .io]

/-- a reader without index standing at a record boundary of a cut stream -/
structure AtStream (t : ShapeType) (k : Nat) (ss : List Shape) (avail : Nat) (st : RState) : Prop where
  noIndex : st.index = none
  pos : st.currentPos = some st.srcPos
  data : st.data.drop st.srcPos = (recordsFrom t k ss).take avail

variable {o : Orient} {tg : Target} {t : ShapeType} {k avail : Nat} {s : Shape} {ss : List Shape} {st : RState}

theorem AtStream.iterNext (h : AtStream t k ss avail st)
    (hgo : ¬ st.declaredEnd ≤ st.srcPos) :
    st.iterNext o tg = st.readHere o tg := by
  rw [RState.iterNext_seq h.noIndex h.pos, if_neg hgo]

theorem AtStream.cut (h : AtStream t k ss avail st)
    (hgo : ¬ st.declaredEnd ≤ st.srcPos)
    (he : readOneShape o tg ((recordsFrom t k ss).take avail) = .err .io) (fuel : Nat) :
    (st.iterAll o tg (fuel + 1)).2 = [.err .io] := by
  rw [← h.data] at he
  rw [RState.iterAll_seq_err h.noIndex (by rw [h.iterNext hgo, RState.readHere_err he])]

theorem AtStream.whole (h : AtStream t k (s :: ss) avail st) (hs : RecOK tg t s) (hk : k < 2147483648)
    (hgo : ¬ st.declaredEnd ≤ st.srcPos)
    (hfit : 8 + 2 * recordSizeWords s ≤ avail) :
    ∃ st1, st.iterNext o tg = (st1, .shape (s.readBack o)) ∧
      AtStream t (k + 1) ss (avail - (8 + 2 * recordSizeWords s)) st1 ∧
      st1.declaredEnd = st.declaredEnd ∧ st1.srcPos = st.srcPos + (8 + 2 * recordSizeWords s) := by
  have hdrop := h.data.trans (recordsFrom_take_whole t k s ss hfit)
  have hL := encRecord_length (k : Int) t s
  refine ⟨_, (h.iterNext hgo).trans (RState.readHere_whole h.pos hdrop (hs.read o hk _) hL), ⟨h.noIndex, rfl, ?_⟩, rfl, rfl⟩
  show st.data.drop _ = _
  rw [← List.drop_drop, hdrop, List.drop_left' hL]

theorem iterAll_stream (o : Orient) (tg : Target) (t : ShapeType) (ss : List Shape) (k avail fuel : Nat) (st : RState)
    (hok : ∀ s ∈ ss, RecOK tg t s) (hk : k + ss.length < 2147483648) (h : AtStream t k ss avail st) :
    (st.iterAll o tg fuel).2 = (seqOuts o st.declaredEnd st.srcPos ss avail).take fuel := by
  induction fuel generalizing ss k avail st with
  | zero => rfl
  | succ fuel ih =>
    by_cases hstop : st.declaredEnd ≤ st.srcPos
    · rw [RState.iterAll_seq_done h.noIndex h.pos hstop]
      cases ss <;> simp [seqOuts, hstop]
    · cases ss with
      | nil =>
        rw [h.cut hstop (by rw [recordsFrom, List.take_nil]; rfl)]
        simp [seqOuts, hstop]
      | cons s ss =>
        obtain ⟨hs, hok⟩ := List.forall_mem_cons.1 hok
        simp only [List.length_cons] at hk
        simp only [seqOuts, if_neg hstop]
        split
        next hfit =>
          obtain ⟨st1, hn, h1, hh, hp⟩ := h.whole hs (by omega) hstop hfit
          rw [RState.iterAll_succ_cons fuel hn (by simp), List.take_succ_cons, ih ss (k + 1) _ st1 hok (by omega) h1,
            hh, hp]
        next hfit =>
          rw [h.cut hstop (by rw [readOneShape_stream o tg ss k avail hs (by omega), if_neg hfit])]
          simp

end Shp
