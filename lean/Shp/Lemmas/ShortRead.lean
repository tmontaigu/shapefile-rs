/-
C13, "a source that returns fewer bytes than asked per read call produces the same shapes as one
that returns them all".

The model's decoders consume their input through the primitives `Dec.take`, `Dec.u32LE/BE` and
`Dec.f64` only, each of which stands for one `Read::read_exact` (`Dec.Fixed`).  Here `read_exact` itself is
modelled (std's default implementation: call `read` until the buffer is full, `Ok(0)` means end of
input) over a source that hands out its bytes according to an ARBITRARY schedule of chunk sizes,
and shown to deliver exactly what the primitive delivers — whatever the schedule.
-/
import Shp.Prim.Dec
namespace Shp

/-- a source: the bytes still to come, and for each coming `read` call the most it is willing to
return (every entry ≥ 1; after the schedule is used up, reads return all that is asked) -/
structure ChunkSrc where
  data : Bytes
  sched : List Nat

namespace ChunkSrc

/-- `Read::read(&mut buf)` with `buf.len() = n` -/
def read (s : ChunkSrc) (n : Nat) : Bytes × ChunkSrc :=
  match s.sched with
  | [] => (s.data.take n, ⟨s.data.drop n, []⟩)
  | k :: ks => (s.data.take (min n k), ⟨s.data.drop (min n k), ks⟩)

/-- std's default `Read::read_exact`: `while !buf.is_empty() { match read(buf) { Ok(0) => break,
Ok(k) => buf = &mut buf[k..], .. } }`, then `UnexpectedEof` (here `none`) unless the buffer is full.
`fuel` bounds the number of `read` calls (each returns at least one byte or ends the loop). -/
def readExact : Nat → ChunkSrc → Nat → Bytes → Option (Bytes × ChunkSrc)
  | _, s, 0, acc => some (acc, s)
  | 0, _, _ + 1, _ => none
  | fuel + 1, s, n + 1, acc =>
    let r := s.read (n + 1)
    if r.1.isEmpty then none else readExact fuel r.2 (n + 1 - r.1.length) (acc ++ r.1)

def Positive (s : ChunkSrc) : Prop := ∀ k ∈ s.sched, 1 ≤ k

theorem read_spec (s : ChunkSrc) (n : Nat) (hp : s.Positive) :
    ∃ m, m ≤ n ∧ m ≤ s.data.length ∧ (s.read n).1 = s.data.take m ∧ (s.read n).2.data = s.data.drop m ∧
      (s.read n).2.Positive ∧ (1 ≤ n → 1 ≤ s.data.length → 1 ≤ m) := by
  unfold read
  cases hs : s.sched with
  | nil =>
    exact ⟨min n s.data.length, Nat.min_le_left .., Nat.min_le_right .., List.take_eq_take_min, List.drop_eq_drop_min,
      fun _ hk => absurd hk List.not_mem_nil, fun hn hd => Nat.le_min.mpr ⟨hn, hd⟩⟩
  | cons k ks =>
    have hk := hp k (by rw [hs]; exact List.mem_cons_self)
    exact ⟨min (min n k) s.data.length, Nat.le_trans (Nat.min_le_left ..) (Nat.min_le_left ..), Nat.min_le_right ..,
      List.take_eq_take_min, List.drop_eq_drop_min, fun j hj => hp j (by rw [hs]; exact List.mem_cons_of_mem _ hj),
      fun hn hd => Nat.le_min.mpr ⟨Nat.le_min.mpr ⟨hn, hk⟩, hd⟩⟩

theorem read_length (s : ChunkSrc) (n : Nat) (hp : s.Positive) (hn : 1 ≤ n) (hd : 1 ≤ s.data.length) :
    1 ≤ (s.read n).1.length ∧ (s.read n).1.length ≤ n := by
  obtain ⟨m, hmn, hml, h1, _, _, hpos⟩ := read_spec s n hp
  rw [h1, List.length_take_of_le hml]
  exact ⟨hpos hn hd, hmn⟩

/-- MAIN: on every schedule of positive chunk sizes `read_exact(n)` yields the next `n` bytes, or
reports the end of input when fewer remain -/
theorem readExact_spec (fuel : Nat) (s : ChunkSrc) (n : Nat) (acc : Bytes) (hp : s.Positive) (hf : n ≤ fuel) :
    if n ≤ s.data.length then
      ∃ s', readExact fuel s n acc = some (acc ++ s.data.take n, s') ∧ s'.data = s.data.drop n ∧ s'.Positive
    else readExact fuel s n acc = none := by
  induction fuel generalizing s n acc with
  | zero =>
    obtain rfl : n = 0 := by omega
    exact (if_pos (Nat.zero_le _)).mpr ⟨s, by simp [readExact], rfl, hp⟩
  | succ fuel ih =>
    cases n with
    | zero => exact (if_pos (Nat.zero_le _)).mpr ⟨s, by simp [readExact], rfl, hp⟩
    | succ n =>
      obtain ⟨m, hmn, hml, h1, h2, hp', hpos⟩ := read_spec s (n + 1) hp
      rw [readExact, h1]
      by_cases h0 : m = 0
      · -- nothing is left: `read` returns `Ok(0)`
        subst h0
        rw [List.take_zero, if_pos List.isEmpty_nil, if_neg (by omega)]
      · have ih' := ih (s.read (n + 1)).2 (n + 1 - m) (acc ++ s.data.take m) hp' (by omega)
        rw [h2, List.length_drop, List.drop_drop, List.append_assoc, ← List.take_add, Nat.add_sub_cancel' hmn] at ih'
        have hne : ¬(s.data.take m).isEmpty = true := by
          rwa [List.isEmpty_iff_length_eq_zero, List.length_take_of_le hml]
        rw [if_neg hne, List.length_take_of_le hml]
        simpa only [Nat.sub_le_sub_iff_right hml] using ih'

/-- the model's primitive `Dec.take` IS std's `read_exact` on any chunking schedule -/
theorem take_eq_readExact (data : Bytes) (sched : List Nat) (hp : ∀ k ∈ sched, 1 ≤ k) (n : Nat) :
    Dec.take n data =
      match readExact n ⟨data, sched⟩ n [] with
      | some (b, s') => .ok b s'.data
      | none => .err .io := by
  have := readExact_spec n ⟨data, sched⟩ n [] hp (Nat.le_refl n)
  unfold Dec.take
  by_cases h : n ≤ data.length
  · rw [if_pos h] at this ⊢
    obtain ⟨s', he, hd, _⟩ := this
    rw [he]
    simp only [List.nil_append, hd]
  · rw [if_neg h] at this ⊢
    rw [this]

/-- a number primitive as `Dec.take` then its conversion, the form `take_eq_readExact` applies to
(`Dec.Fixed` says so of all five) -/
theorem u32LE_via_take (bs : Bytes) :
    Dec.u32LE bs = match Dec.take 4 bs with
      | .ok [b0, b1, b2, b3] rest => .ok (decU32LE b0 b1 b2 b3) rest
      | .ok _ _ => .err .io
      | .err e => .err e
      | .panic s => .panic s := by
  unfold Dec.u32LE Dec.take
  match bs with
  | [] | [_] | [_, _] | [_, _, _] => rfl
  | b0 :: b1 :: b2 :: b3 :: rest => rfl

theorem f64_via_take (bs : Bytes) :
    Dec.f64 bs = match Dec.take 8 bs with
      | .ok [b0, b1, b2, b3, b4, b5, b6, b7] rest => .ok (F64.dec b0 b1 b2 b3 b4 b5 b6 b7) rest
      | .ok _ _ => .err .io
      | .err e => .err e
      | .panic s => .panic s := by
  unfold Dec.f64 Dec.take
  match bs with
  | [] | [_] | [_, _] | [_, _, _] | [_, _, _, _] | [_, _, _, _, _] | [_, _, _, _, _, _] | [_, _, _, _, _, _, _] => rfl
  | b0 :: b1 :: b2 :: b3 :: b4 :: b5 :: b6 :: b7 :: rest => rfl

/-- non-vacuity: 5 bytes asked from a source that returns 2, 1, 3 bytes per call -/
example : readExact 5 ⟨[1, 2, 3, 4, 5, 6, 7], [2, 1, 3]⟩ 5 [] = some ([1, 2, 3, 4, 5], ⟨[6, 7], []⟩) := by rfl

end ChunkSrc
end Shp
