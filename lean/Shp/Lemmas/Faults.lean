/-
Failing and crashing destinations: whatever a fault plan does, what a destination holds afterwards
is the result of a PREFIX of the operations issued to it, the last one possibly cut (a write that
delivered only its first bytes).  Then every such prefix of what the writer issues to a destination
(`finalizeOps`, an append, a first write), as explicit bytes and read as `C12.Mid`.
-/
import Shp.Lemmas.Dest
namespace Shp

def Dst.applyPrefix (d : Dst) (ops : List IOOp) (k cut : Nat) : Dst :=
  let d' := (ops.take k).foldl Dst.apply d
  match ops[k]? with
  | some (.write bs) => d'.apply (.write (bs.take cut))
  | _ => d'

theorem Dst.applyPrefix_nil (d : Dst) (k cut : Nat) : d.applyPrefix [] k cut = d := by
  simp [Dst.applyPrefix]

theorem Dst.applyPrefix_cons_succ (d : Dst) (op : IOOp) (ops : List IOOp) (k cut : Nat) :
    d.applyPrefix (op :: ops) (k + 1) cut = (d.apply op).applyPrefix ops k cut := by
  simp [Dst.applyPrefix]

theorem Dst.applyPrefix_append (d : Dst) (ops1 ops2 : List IOOp) (k cut : Nat) :
    d.applyPrefix (ops1 ++ ops2) k cut =
      if k < ops1.length then d.applyPrefix ops1 k cut
      else (d.applyAll ops1).applyPrefix ops2 (k - ops1.length) cut := by
  induction ops1 generalizing d k with
  | nil => simp [Dst.applyAll]
  | cons op ops ih =>
    cases k with
    | zero => simp [Dst.applyPrefix]
    | succ k =>
      simp only [List.cons_append, Dst.applyPrefix_cons_succ, List.length_cons, Nat.add_lt_add_iff_right, Dst.applyAll,
        List.foldl_cons, Nat.add_sub_add_right]
      exact ih (d.apply op) k

theorem Dst.split (d : Dst) (h : d.pos ≤ d.data.length) : ∃ pre post, d = ⟨pre ++ post, pre.length⟩ :=
  ⟨d.data.take d.pos, d.data.drop d.pos, by simp [Nat.min_eq_left h]⟩

theorem Dst.apply_write_nil (d : Dst) (h : d.pos ≤ d.data.length) : d.apply (.write []) = d := by
  obtain ⟨pre, post, rfl⟩ := d.split h
  simp [Dst.apply, writeAt_append]

theorem Dst.applyFaulty_none (d : Dst) (p : Bool) (op : IOOp) :
    d.applyFaulty .none p op = (d.apply op, .none, false) := by
  cases op <;> rfl

theorem Dst.applyFaulty_spec (d : Dst) (f : Fault) (p : Bool) (op : IOOp) :
    if (d.applyFaulty f p op).2.2 then
      ((∀ bs, op ≠ .write bs) ∧ (d.applyFaulty f p op).1 = d) ∨
        ∃ bs n, op = .write bs ∧ (d.applyFaulty f p op).1 = d.apply (.write (bs.take n))
    else (d.applyFaulty f p op).1 = d.apply op := by
  cases op with
  | write bs =>
    cases f with
    | writeAfter n =>
      simp only [Dst.applyFaulty]
      split
      · simp
      · exact Or.inr ⟨bs, n, rfl, rfl⟩
    | _ => simp [Dst.applyFaulty]
  | flush =>
    cases f with
    | flushAt k => cases k <;> simp [Dst.applyFaulty, Dst.apply]
    | _ => simp [Dst.applyFaulty, Dst.apply]
  | seekStart _ | seekEnd =>
    cases f with
    | seekAt k => cases k <;> simp [Dst.applyFaulty]
    | _ => simp [Dst.applyFaulty]

theorem Dst.applyFaulty_ok (d : Dst) (f : Fault) (persistent : Bool) (op : IOOp)
    (h : (d.applyFaulty f persistent op).2.2 = false) : (d.applyFaulty f persistent op).1 = d.apply op := by
  simpa [h] using d.applyFaulty_spec f persistent op

theorem Dst.applyFaulty_failed (d : Dst) (f : Fault) (persistent : Bool) (op : IOOp)
    (h : (d.applyFaulty f persistent op).2.2 = true) :
    ((∀ bs, op ≠ .write bs) ∧ (d.applyFaulty f persistent op).1 = d) ∨
      ∃ bs n, op = .write bs ∧ (d.applyFaulty f persistent op).1 = d.apply (.write (bs.take n)) := by
  simpa [h] using d.applyFaulty_spec f persistent op

/-- a destination that accepts fewer bytes per call than offered receives identical output (the
`write_all` loop) -/
theorem Dst.apply_write_append (d : Dst) (a b : Bytes) (h : d.pos ≤ d.data.length) :
    (d.apply (.write a)).apply (.write b) = d.apply (.write (a ++ b)) := by
  obtain ⟨pre, post, rfl⟩ := d.split h
  simp only [Dst.apply, writeAt_append, ← List.length_append]
  simp [List.drop_drop]

theorem Dst.apply_chunks (d : Dst) (chunks : List Bytes) (h : d.pos ≤ d.data.length) :
    (chunks.map IOOp.write).foldl Dst.apply d = d.apply (.write chunks.flatten) := by
  induction chunks generalizing d with
  | nil => simp [Dst.apply_write_nil d h]
  | cons c cs ih =>
    simp only [List.map_cons, List.foldl_cons, List.flatten_cons]
    have hpos : (d.apply (.write c)).pos ≤ (d.apply (.write c)).data.length := by
      obtain ⟨pre, post, rfl⟩ := d.split h
      simp [Dst.apply, writeAt_append]
    rw [ih _ hpos, Dst.apply_write_append d c cs.flatten h]

/-- a fault plan run against ONE destination: what `FWorld.runOps` does to each of the two
(`FWorld.runOps_shp`, `_shx`) -/
def Dst.runFaulty (d : Dst) (f : Fault) (p : Bool) : List IOOp → Dst × Fault × Bool
  | [] => (d, f, false)
  | op :: rest =>
    let r := d.applyFaulty f p op
    if r.2.2 then (r.1, r.2.1, true) else r.1.runFaulty r.2.1 p rest

theorem Dst.runFaulty_prefix (d : Dst) (f : Fault) (p : Bool) (ops : List IOOp) :
    ∃ k cut, (d.runFaulty f p ops).1 = d.applyPrefix ops k cut ∧
      ((d.runFaulty f p ops).2.2 = false → (d.runFaulty f p ops).1 = ops.foldl Dst.apply d) := by
  induction ops generalizing d f with
  | nil => exact ⟨0, 0, (d.applyPrefix_nil 0 0).symm, fun _ => rfl⟩
  | cons op rest ih =>
    rw [Dst.runFaulty]
    split
    next hf =>
      rcases Dst.applyFaulty_failed d f p op hf with ⟨hnw, h⟩ | ⟨bs, n, rfl, h⟩
      · refine ⟨0, 0, h.trans ?_, nofun⟩
        cases op with
        | write bs => exact absurd rfl (hnw bs)
        | _ => rfl
      · exact ⟨0, n, h, nofun⟩
    next hf =>
      obtain ⟨k, cut, hk, hall⟩ := ih (d.applyFaulty f p op).1 (d.applyFaulty f p op).2.1
      rw [Dst.applyFaulty_ok d f p op (by simpa using hf)] at hk hall ⊢
      exact ⟨k + 1, cut, by rw [hk, Dst.applyPrefix_cons_succ], fun hh => by rw [hall hh]; rfl⟩

theorem FWorld.runOps_shp (fw : FWorld) (sops : List IOOp) (rest : List (DestId × IOOp)) :
    fw.runOps (sops.map (Prod.mk .shp) ++ rest) =
      let r := fw.w.shp.runFaulty fw.shpFault fw.persistent sops
      let fw' : FWorld := { fw with w := { fw.w with shp := r.1 }, shpFault := r.2.1 }
      if r.2.2 then (fw', true) else fw'.runOps rest := by
  induction sops generalizing fw with
  | nil => simp [Dst.runFaulty]
  | cons o os ih =>
    simp only [List.map_cons, List.cons_append, FWorld.runOps, Dst.runFaulty]
    by_cases hf : (fw.w.shp.applyFaulty fw.shpFault fw.persistent o).2.2 = true
    · simp only [hf, if_true]
    · simp only [hf, Bool.false_eq_true, if_false]
      rw [ih]

theorem FWorld.runOps_shx (fw : FWorld) (xops : List IOOp) :
    (fw.runOps (xops.map (Prod.mk .shx))).1.w =
      { fw.w with shx := (fw.w.shx.runFaulty fw.shxFault fw.persistent xops).1 } := by
  induction xops generalizing fw with
  | nil => rfl
  | cons o os ih =>
    simp only [List.map_cons, FWorld.runOps, Dst.runFaulty]
    split
    · rfl
    · rw [ih]

/-- the .shx is reached only if the .shp did not fail -/
theorem FWorld.runOps_shp_then_shx (fw : FWorld) (a b : List IOOp) :
    ∃ x, (x = fw.w.shx ∨ x = (fw.w.shx.runFaulty fw.shxFault fw.persistent b).1) ∧
      (fw.runOps (a.map (Prod.mk .shp) ++ b.map (Prod.mk .shx))).1.w =
        ⟨fw.w.st, (fw.w.shp.runFaulty fw.shpFault fw.persistent a).1, x⟩ := by
  rw [FWorld.runOps_shp]
  simp only
  split
  · exact ⟨_, Or.inl rfl, rfl⟩
  · exact ⟨_, Or.inr rfl, FWorld.runOps_shx _ b⟩

theorem FWorld.call_of_plan {fw : FWorld} {c : WCall} {p : Plan} (hp : plan fw.w.st c = .ok p) :
    fw.call c =
      if (fw.runOps p.ops).2 then
        ({ (fw.runOps p.ops).1 with w := { (fw.runOps p.ops).1.w with st := p.pre } }, .error .io)
      else ({ (fw.runOps p.ops).1 with w := { (fw.runOps p.ops).1.w with st := p.post } }, .ok ()) := by
  simp only [FWorld.call, hp]

theorem FWorld.call_of_error {fw : FWorld} {c : WCall} {e : Err} (hp : plan fw.w.st c = .error e) :
    fw.call c = (fw, .error e) := by
  simp only [FWorld.call, hp]

theorem Dst.applyPrefix_rewrite (d : Dst) (new : Bytes) (tail : List IOOp) (k cut : Nat) :
    (∃ c, c ≤ new.length ∧ (d.applyPrefix (.seekStart 0 :: .write new :: tail) k cut).data = new.take c ++ d.data.drop c) ∨
    (∃ k', d.applyPrefix (.seekStart 0 :: .write new :: tail) k cut =
      ((d.apply (.seekStart 0)).apply (.write new)).applyPrefix tail k' cut) := by
  match k with
  | 0 => exact .inl ⟨0, Nat.zero_le _, rfl⟩
  | 1 =>
    refine .inl ⟨min cut new.length, Nat.min_le_right _ _, ?_⟩
    show writeAt d.data 0 (new.take cut) = _
    rw [writeAt_zero, List.length_take, List.take_eq_take_min]
  | k + 2 => exact .inr ⟨k, by rw [Dst.applyPrefix_cons_succ, Dst.applyPrefix_cons_succ]⟩

theorem Dst.applyPrefix_finalize (d : Dst) (new : Bytes) (k cut : Nat) :
    ∃ c, c ≤ new.length ∧ (d.applyPrefix (finalizeOps new) k cut).data = new.take c ++ d.data.drop c := by
  unfold finalizeOps
  rcases d.applyPrefix_rewrite new [.seekEnd, .flush] k cut with h | ⟨k', h⟩
  · exact h
  · refine ⟨new.length, Nat.le_refl _, ?_⟩
    rw [h, List.take_length]
    have hw : ((d.apply (.seekStart 0)).apply (.write new)).data = new ++ d.data.drop new.length := writeAt_zero _ _
    -- the seek and the flush behind the header leave the data alone
    match k' with
    | 0 => exact hw
    | 1 => exact hw
    | k' + 2 =>
      rw [Dst.applyPrefix_cons_succ, Dst.applyPrefix_cons_succ, Dst.applyPrefix_nil]
      exact hw

theorem Dst.applyPrefix_append_end (d : Dst) (app : Bytes) (hpos : d.pos = d.data.length) (k cut : Nat) :
    ∃ c', (d.applyPrefix [.write app] k cut).data = d.data ++ app.take c' := by
  match k with
  | 0 => exact ⟨cut, congrArg Dst.data (d.apply_write_end (app.take cut) hpos)⟩
  | k + 1 =>
    refine ⟨app.length, ?_⟩
    rw [Dst.applyPrefix_cons_succ, Dst.applyPrefix_nil, Dst.apply_write_end _ _ hpos, List.take_length]

open C12 (Mid)

theorem C12.Mid.exists_take {rest : Bytes} {d : Dst} (hm : Mid rest d) : ∃ n, Mid (rest.take n) d :=
  ⟨rest.length, by rwa [List.take_length]⟩

/-- the first `c` bytes of a header over a header-sized region: still one -/
theorem C12.Mid.torn {rest : Bytes} {d d' : Dst} (hm : Mid rest d) {new : Bytes} (hl : new.length = 100) {c : Nat} (hc : c ≤ 100)
    (h : d'.data = new.take c ++ d.data.drop c) : Mid rest d' := by
  obtain ⟨hb, h1, h2, h3⟩ := hm
  have hlen : (new.take c ++ hb.drop c).length = c + (hb.length - c) := by
    rw [List.length_append, List.length_take_of_le (hl ▸ hc), List.length_drop]
  refine ⟨new.take c ++ hb.drop c, by omega, fun hlt => h2 (by omega), ?_⟩
  by_cases hf : hb.length < 100
  · rw [h, h3, h2 hf, List.append_nil, List.append_nil]
  · rw [h, h3, List.drop_append_of_le_length (by omega), List.append_assoc]

theorem C12.Mid.crash_finalize {rest : Bytes} {d : Dst} (hm : Mid rest d) (hdr : Bytes) (hl : hdr.length = 100)
    (k cut : Nat) : Mid rest (d.applyPrefix (finalizeOps hdr) k cut) := by
  obtain ⟨c, hc, h⟩ := d.applyPrefix_finalize hdr k cut
  exact hm.torn hl (by omega) h

theorem C12.Mid.runFaulty_finalizeOps {rest : Bytes} {d : Dst} (hm : Mid rest d) (hdr : Bytes) (hl : hdr.length = 100)
    (f : Fault) (p : Bool) : Mid rest (d.runFaulty f p (finalizeOps hdr)).1 := by
  obtain ⟨k, cut, hk, _⟩ := Dst.runFaulty_prefix d f p (finalizeOps hdr)
  rw [hk]
  exact hm.crash_finalize hdr hl k cut

theorem Dst.Holds.crash_append {d : Dst} {fresh : Prop} {body : Bytes} (h : d.Holds fresh body) (hf : ¬ fresh)
    (chunk : Bytes) (k cut : Nat) : ∃ n, Mid ((body ++ chunk).take n) (d.applyPrefix [.write chunk] k cut) := by
  obtain ⟨c', hc'⟩ := d.applyPrefix_append_end chunk h.pos k cut
  exact ⟨body.length + c', by rw [List.take_length_add_append]; exact h.mid_append hf _ hc'⟩

/-- every crash point of a first write: a torn header with nothing behind it, or an append behind
the complete header -/
theorem C12.Mid.crash_first {d : Dst} (hm : Mid [] d) (hdr chunk : Bytes) (hl : hdr.length = 100) (k cut : Nat) :
    ∃ n, Mid (chunk.take n) (d.applyPrefix [.seekStart 0, .write hdr, .write chunk] k cut) := by
  rcases d.applyPrefix_rewrite hdr [.write chunk] k cut with ⟨c, hc, h⟩ | ⟨k', h⟩
  · exact ⟨0, hm.torn hl (hl ▸ hc) h⟩
  · rw [h]
    exact (hm.header_holds hdr hl).crash_append id chunk k' cut

theorem Dst.Holds.crash_writeOps {d : Dst} {fresh first : Prop} [Decidable first] {body : Bytes} (h : d.Holds fresh body)
    (hf : first ↔ fresh) (hb : fresh → body = []) (hdr chunk : Bytes) (hl : hdr.length = 100) (k cut : Nat) :
    ∃ n, Mid ((body ++ chunk).take n) (d.applyPrefix (Shp.writeOps first hdr chunk) k cut) := by
  by_cases h1 : first
  · obtain rfl := hb (hf.1 h1)
    rw [writeOps_first h1]
    exact (h.mid hb).crash_first hdr chunk hl k cut
  · rw [writeOps_next h1]
    exact h.crash_append (mt hf.2 h1) chunk k cut

end Shp
