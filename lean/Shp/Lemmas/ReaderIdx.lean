/-
Index-driven reading as a refinement of an abstract cursor over the list of index entries
(C04, C11, C13, C14, C15): the concrete reader state abstracts to `nextShape`, whatever the physical
layout of the `.shp`.  `TInv` is the general invariant, made for truncated and crashed files (every
entry yields what reading at its offset gives: a decodable record, or the decoder's refusal);
`RInv` is the case in which every entry points at a decodable record.
-/
import Shp.Lemmas.ReaderStep
namespace Shp

/-- index entry `e` points at a record of `data` that decodes to `s` and whose declared content
length is what the decoder consumed -/
def RecordAt (o : Orient) (tg : Target) (data : Bytes) (e : IndexEntry) (s : Shape) : Prop :=
  0 ≤ e.offset ∧ ∃ (w : Int) (rest : Bytes),
    readOneShape o tg (data.drop (2 * e.offset).toNat) = .ok (w, s) rest ∧ 0 ≤ w ∧
    (2 * e.offset).toNat + 8 + (2 * w).toNat + rest.length = data.length

def Addressable (o : Orient) (tg : Target) (data : Bytes) (idx : List IndexEntry) (shapes : List Shape) : Prop :=
  idx.length = shapes.length ∧
  ∀ (i : Nat) (h1 : i < idx.length) (h2 : i < shapes.length), RecordAt o tg data idx[i] shapes[i]

structure RInv (o : Orient) (tg : Target) (shapes : List Shape) (st : RState) : Prop where
  idx : ∃ idx, st.index = some idx ∧ Addressable o tg st.data idx shapes
  /-- the reader's belief about the source position is right whenever it has one -/
  truthful : ∀ p, st.currentPos = some p → st.srcPos = p

def EntryOut (o : Orient) (tg : Target) (data : Bytes) (e : IndexEntry) (out : ROut) : Prop :=
  0 ≤ e.offset ∧
  ((∃ s, out = .shape s ∧ RecordAt o tg data e s) ∨
   (∃ err, out = .err err ∧ readOneShape o tg (data.drop (2 * e.offset).toNat) = .err err))

structure TInv (o : Orient) (tg : Target) (outs : List ROut) (st : RState) : Prop where
  idx : ∃ idx, st.index = some idx ∧ idx.length = outs.length ∧
    ∀ (i : Nat) (h1 : i < idx.length) (h2 : i < outs.length), EntryOut o tg st.data idx[i] outs[i]
  truthful : ∀ p, st.currentPos = some p → st.srcPos = p

namespace C13

/-- what index entry `e` yields: the outcome of decoding one record at its offset -/
def entryOut (o : Orient) (tg : Target) (data : Bytes) (e : IndexEntry) : ROut :=
  match readOneShape o tg (data.drop (2 * e.offset).toNat) with
  | .ok (_, s) _ => .shape s
  | .err e => .err e
  | .panic s => .panic s

theorem entryOut_ok {o : Orient} {tg : Target} {data : Bytes} {e : IndexEntry} {w : Int} {s : Shape} {rest : Bytes}
    (h : readOneShape o tg (data.drop (2 * e.offset).toNat) = .ok (w, s) rest) : entryOut o tg data e = .shape s := by
  unfold entryOut; rw [h]

theorem entryOut_err {o : Orient} {tg : Target} {data : Bytes} {e : IndexEntry} {err : Err}
    (h : readOneShape o tg (data.drop (2 * e.offset).toNat) = .err err) : entryOut o tg data e = .err err := by
  unfold entryOut; rw [h]

end C13

theorem RecordAt.entryOut {o : Orient} {tg : Target} {data : Bytes} {e : IndexEntry} {s : Shape}
    (h : RecordAt o tg data e s) : C13.entryOut o tg data e = .shape s :=
  let ⟨_, _, _, hread, _⟩ := h
  C13.entryOut_ok hread

theorem TInv.of_entries {o : Orient} {tg : Target} {st : RState} {idx : List IndexEntry} (hidx : st.index = some idx)
    (ht : ∀ p, st.currentPos = some p → st.srcPos = p)
    (h : ∀ (i : Nat) (hi : i < idx.length), (∃ s, RecordAt o tg st.data idx[i] s) ∨
      (0 ≤ idx[i].offset ∧ ∃ err, readOneShape o tg (st.data.drop (2 * idx[i].offset).toNat) = .err err)) :
    TInv o tg (idx.map (C13.entryOut o tg st.data)) st := by
  refine ⟨⟨idx, hidx, by simp, fun i h1 _ => ?_⟩, ht⟩
  rw [List.getElem_map]
  rcases h i h1 with ⟨s, hr⟩ | ⟨hoff, err, herr⟩
  · exact ⟨hr.1, .inl ⟨s, hr.entryOut, hr⟩⟩
  · exact ⟨hoff, .inr ⟨err, C13.entryOut_err herr, herr⟩⟩

theorem TInv.frame {o : Orient} {tg : Target} {outs : List ROut} {st st' : RState} (h : TInv o tg outs st)
    (hi : st'.index = st.index) (hd : st'.data = st.data) (ht : ∀ p, st'.currentPos = some p → st'.srcPos = p) :
    TInv o tg outs st' :=
  ⟨by rw [hi, hd]; exact h.idx, ht⟩

theorem TInv.ne_none {o : Orient} {tg : Target} {outs : List ROut} {st : RState} (h : TInv o tg outs st) :
    ∀ x ∈ outs, x ≠ ROut.none := by
  obtain ⟨idx, _, hlen, hent⟩ := h.idx
  intro x hx
  obtain ⟨i, hi, rfl⟩ := List.getElem_of_mem hx
  rcases (hent i (by omega) hi).2 with ⟨s, hs, _⟩ | ⟨e, he, _⟩
  · rw [hs]; simp
  · rw [he]; simp

theorem TInv.iterNext {o : Orient} {tg : Target} {outs : List ROut} {st : RState} (h : TInv o tg outs st)
    (hk : st.nextShape < outs.length) :
    ∃ st', st.iterNext o tg = (st', outs[st.nextShape]) ∧ TInv o tg outs st' ∧
      st'.nextShape = st.nextShape + 1 := by
  obtain ⟨idx, hidx, hlen, hent⟩ := h.idx
  have hk' : st.nextShape < idx.length := by omega
  obtain ⟨hoff, hcase⟩ := hent _ hk' hk
  have hnext := RState.iterNext_idx (o := o) (tg := tg) hidx hk' hoff h.truthful
  rcases hcase with ⟨s, hout, _, w, rest, hread, hw, hcons⟩ | ⟨err, hout, hread⟩
  · rw [hout]
    exact ⟨_, hnext.trans (RState.readHere_record rfl hread hcons), h.frame rfl rfl fun p hp => Option.some.inj hp, rfl⟩
  · rw [hout]
    exact ⟨_, hnext.trans (RState.readHere_err hread), h.frame rfl rfl (fun p hp => nomatch hp), rfl⟩

theorem TInv.iterNext_end {o : Orient} {tg : Target} {outs : List ROut} {st : RState} (h : TInv o tg outs st)
    (hk : outs.length ≤ st.nextShape) : st.iterNext o tg = (st, .none) := by
  obtain ⟨idx, hidx, hlen, _⟩ := h.idx
  exact RState.iterNext_idx_end hidx (by omega)

/-- `min (c + j) (max c n)`: a cursor at `c` over `n` entries, after `j` calls of `next()` -/
theorem cursor_succ {c n : Nat} (j : Nat) (h : c < n) :
    min (c + 1 + j) (max (c + 1) n) = min (c + (j + 1)) (max c n) := by
  rw [Nat.max_eq_right h, Nat.max_eq_right (Nat.le_of_lt h), Nat.add_right_comm, Nat.add_assoc]

theorem cursor_end {c n : Nat} (j : Nat) (h : n ≤ c) : min (c + j) (max c n) = c := by
  rw [Nat.max_eq_left h, Nat.min_eq_right (Nat.le_add_right c j)]

theorem TInv.iterAll {o : Orient} {tg : Target} {outs : List ROut} (hno : ∀ x ∈ outs, x ≠ ROut.none)
    (fuel : Nat) {st : RState} (h : TInv o tg outs st) :
    ∃ st', st.iterAll o tg fuel = (st', (outs.drop st.nextShape).take fuel) ∧
      TInv o tg outs st' ∧ st'.nextShape = min (st.nextShape + fuel) (max st.nextShape outs.length) := by
  induction fuel generalizing st with
  | zero => exact ⟨st, rfl, h, (Nat.min_eq_left (Nat.le_max_left _ _)).symm⟩
  | succ fuel ih =>
    by_cases hk : st.nextShape < outs.length
    · obtain ⟨st1, hnext, hinv1, hn1⟩ := h.iterNext hk
      obtain ⟨st2, hall, hinv2, hn2⟩ := ih hinv1
      refine ⟨st2, ?_, hinv2, by rw [hn2, hn1, cursor_succ fuel hk]⟩
      rw [RState.iterAll_succ_cons fuel hnext (hno _ (List.getElem_mem hk)), hall, hn1,
        List.drop_eq_getElem_cons hk, List.take_succ_cons]
    · have hk := Nat.le_of_not_lt hk
      refine ⟨st, ?_, h, (cursor_end _ hk).symm⟩
      rw [RState.iterAll_succ_none fuel (h.iterNext_end hk), List.drop_eq_nil_of_le hk]
      rfl

theorem TInv.seek {o : Orient} {tg : Target} {outs : List ROut} {st : RState} (h : TInv o tg outs st) (k : Nat) :
    ∃ st', st.seek k = (st', .unit) ∧ TInv o tg outs st' ∧ st'.nextShape = min k outs.length := by
  obtain ⟨idx, hidx, hlen, hent⟩ := h.idx
  by_cases hk : k < idx.length
  · rw [RState.seek_entry hidx hk, wordsToBytes_nonneg (hent k hk (by omega)).1]
    exact ⟨_, rfl, h.frame rfl rfl fun p hp => Option.some.inj hp, congrArg (min k) hlen⟩
  · rw [RState.seek_end hidx (Nat.le_of_not_lt hk)]
    exact ⟨_, rfl, h.frame rfl rfl fun p hp => Option.some.inj hp, congrArg (min k) hlen⟩

theorem TInv.readNth {o : Orient} {tg : Target} {outs : List ROut} {st : RState} (h : TInv o tg outs st)
    (i : Nat) (hi : i < outs.length) :
    ∃ st', st.readNth o tg i = (st', outs[i]) ∧ TInv o tg outs st' ∧ st'.nextShape = 0 := by
  obtain ⟨idx, hidx, hlen, hent⟩ := h.idx
  have hi' : i < idx.length := by omega
  obtain ⟨hoff, hcase⟩ := hent i hi' hi
  rw [RState.readNth_entry hidx hi', wordsToBytes_nonneg hoff]
  rcases hcase with ⟨s, hout, _, w, rest, hread, _⟩ | ⟨err, hout, hread⟩
  · simp only [hread, hout]
    exact ⟨_, rfl, h.frame rfl rfl fun p hp => Option.some.inj hp, rfl⟩
  · simp only [hread, hout]
    exact ⟨_, rfl, h.frame rfl rfl (fun p hp => nomatch hp), rfl⟩

theorem TInv.readNth_none {o : Orient} {tg : Target} {outs : List ROut} {st : RState} (h : TInv o tg outs st)
    (i : Nat) (hi : outs.length ≤ i) : st.readNth o tg i = (st, .none) := by
  obtain ⟨idx, hidx, hlen, _⟩ := h.idx
  exact RState.readNth_end hidx (by omega)

theorem RInv.iff_tinv {o : Orient} {tg : Target} {shapes : List Shape} {st : RState} :
    RInv o tg shapes st ↔ TInv o tg (shapes.map ROut.shape) st := by
  constructor
  · rintro ⟨⟨idx, hidx, hlen, haddr⟩, ht⟩
    refine ⟨⟨idx, hidx, by simpa using hlen, fun i h1 h2 => ?_⟩, ht⟩
    have hr := haddr i h1 (by simpa using h2)
    exact ⟨hr.1, Or.inl ⟨_, by simp, hr⟩⟩
  · rintro ⟨⟨idx, hidx, hlen, hent⟩, ht⟩
    refine ⟨⟨idx, hidx, by simpa using hlen, fun i h1 h2 => ?_⟩, ht⟩
    rcases (hent i h1 (by simpa using h2)).2 with ⟨s, hs, hr⟩ | ⟨err, he, _⟩
    · simp only [List.getElem_map, ROut.shape.injEq] at hs; exact hs ▸ hr
    · simp at he

theorem RInv.iterNext {o : Orient} {tg : Target} {shapes : List Shape} {st : RState} (h : RInv o tg shapes st)
    (hk : st.nextShape < shapes.length) :
    ∃ st', st.iterNext o tg = (st', .shape shapes[st.nextShape]) ∧ RInv o tg shapes st' ∧
      st'.nextShape = st.nextShape + 1 := by
  obtain ⟨st', hn, hinv, hc⟩ := (RInv.iff_tinv.1 h).iterNext (by simpa using hk)
  exact ⟨st', by simpa using hn, RInv.iff_tinv.2 hinv, hc⟩

theorem RInv.iterNext_end {o : Orient} {tg : Target} {shapes : List Shape} {st : RState} (h : RInv o tg shapes st)
    (hk : shapes.length ≤ st.nextShape) : st.iterNext o tg = (st, .none) :=
  (RInv.iff_tinv.1 h).iterNext_end (by simpa using hk)

theorem RInv.iterAll {o : Orient} {tg : Target} {shapes : List Shape} (fuel : Nat) {st : RState}
    (h : RInv o tg shapes st) :
    ∃ st', st.iterAll o tg fuel = (st', ((shapes.drop st.nextShape).take fuel).map ROut.shape) ∧
      RInv o tg shapes st' ∧ st'.nextShape = min (st.nextShape + fuel) (max st.nextShape shapes.length) := by
  obtain ⟨st', ha, hinv, hc⟩ := (RInv.iff_tinv.1 h).iterAll (by simp) fuel
  exact ⟨st', by rw [ha, List.map_take, List.map_drop], RInv.iff_tinv.2 hinv, by rw [hc, List.length_map]⟩

theorem RInv.seek {o : Orient} {tg : Target} {shapes : List Shape} {st : RState} (h : RInv o tg shapes st) (k : Nat) :
    ∃ st', st.seek k = (st', .unit) ∧ RInv o tg shapes st' ∧ st'.nextShape = min k shapes.length := by
  obtain ⟨st', hs, hinv, hc⟩ := (RInv.iff_tinv.1 h).seek k
  exact ⟨st', hs, RInv.iff_tinv.2 hinv, by simpa using hc⟩

theorem RInv.readNth {o : Orient} {tg : Target} {shapes : List Shape} {st : RState} (h : RInv o tg shapes st)
    (i : Nat) (hi : i < shapes.length) :
    ∃ st', st.readNth o tg i = (st', .shape shapes[i]) ∧ RInv o tg shapes st' ∧ st'.nextShape = 0 := by
  obtain ⟨st', hr, hinv, hc⟩ := (RInv.iff_tinv.1 h).readNth i (by simpa using hi)
  exact ⟨st', by simpa using hr, RInv.iff_tinv.2 hinv, hc⟩

theorem RInv.readNth_none {o : Orient} {tg : Target} {shapes : List Shape} {st : RState} (h : RInv o tg shapes st)
    (i : Nat) (hi : shapes.length ≤ i) : st.readNth o tg i = (st, .none) :=
  (RInv.iff_tinv.1 h).readNth_none i (by simpa using hi)

theorem RInv.shapeCount {o : Orient} {tg : Target} {shapes : List Shape} {st : RState} (h : RInv o tg shapes st) :
    st.shapeCount = .count shapes.length := by
  obtain ⟨idx, hidx, hlen, _⟩ := h.idx
  unfold RState.shapeCount
  simp only [hidx, hlen]

theorem RInv.sizeHint {o : Orient} {tg : Target} {shapes : List Shape} {st : RState} (h : RInv o tg shapes st) :
    st.sizeHint = some (shapes.length - st.nextShape) := by
  obtain ⟨idx, hidx, hlen, _⟩ := h.idx
  unfold RState.sizeHint
  simp only [hidx, hlen]

theorem open_addressable (o : Orient) (tg : Target) (shp shx : Bytes) (idx : List IndexEntry) (shapes : List Shape)
    (h : Header) (rest xr : Bytes)
    (hx : readIndexFile shx = .ok idx xr) (hh : readHeader shp = .ok h rest)
    (ha : Addressable o tg shp idx shapes) :
    ∃ st, RState.open shp (some shx) = .ok st ∧ RInv o tg shapes st ∧ st.nextShape = 0 :=
  ⟨_, RState.open_some hx hh, ⟨⟨idx, rfl, ha⟩, fun _ hp => Option.some.inj hp⟩, rfl⟩

end Shp
