/-
A torn header write: the first `c` bytes of the new header over the old one.  The header parser looks
only at the file code and the shape type code for validity, and a big-endian length field torn
between an old value and a larger new one is never smaller than the old one.
-/
import Shp.Lemmas.Dest
import Shp.Lemmas.Codec
namespace Shp
open Dec

/-- a slice of a mixture is the mixture of the slices -/
theorem slice_mix (x y : Bytes) (c a b : Nat) (hxy : x.length = y.length) (hc : c ≤ x.length) :
    ((x.take c ++ y.drop c).drop a).take b =
      ((x.drop a).take b).take (c - a) ++ ((y.drop a).take b).drop (c - a) := by
  rw [List.drop_append, List.length_take, Nat.min_eq_left hc, List.drop_take, List.drop_drop,
    List.take_append, List.take_take, List.take_take, List.length_take, List.length_drop,
    List.drop_take, List.drop_drop, Nat.min_comm b, Nat.min_eq_left (Nat.sub_le_sub_right hc a)]
  -- both offsets are `max a c`
  have e : c + (a - c) = a + (c - a) := by omega
  rw [e]

theorem Dec.Fixed.total_at {α : Type} {d : Dec α} {k : Nat} (h : Fixed d k) (bs : Bytes) (a b : Nat) (hb : a + k = b)
    (hl : b ≤ bs.length) : ∃ v, d (bs.drop a) = .ok v (bs.drop b) := by
  obtain ⟨v, hv⟩ := h.total (bs.drop a) (by rw [List.length_drop]; omega)
  exact ⟨v, by rw [hv, List.drop_drop, hb]⟩

/-- the header parser accepts ANY 100 bytes that start with the file code and carry a known shape
type code; the length it reports is whatever bytes 24..28 hold -/
theorem readHeader_total (bs : Bytes) (hl : 100 ≤ bs.length)
    (hcode : i32BE bs = .ok Const.fileCode (bs.drop 4))
    (t : ShapeType) (ht : readShapeType (bs.drop 32) = .ok t (bs.drop 36)) :
    ∃ h, readHeader bs = .ok h (bs.drop 100) ∧ i32BE (bs.drop 24) = .ok h.fileLength (bs.drop 28) := by
  obtain ⟨_, hpad⟩ := (Fixed.take 20).total_at bs 4 24 rfl (by omega)
  obtain ⟨len, hlen⟩ := Fixed.i32BE.total_at bs 24 28 rfl (by omega)
  obtain ⟨ver, hver⟩ := Fixed.i32LE.total_at bs 28 32 rfl (by omega)
  obtain ⟨v1, h1⟩ := Fixed.f64.total_at bs 36 44 rfl (by omega)
  obtain ⟨v2, h2⟩ := Fixed.f64.total_at bs 44 52 rfl (by omega)
  obtain ⟨v3, h3⟩ := Fixed.f64.total_at bs 52 60 rfl (by omega)
  obtain ⟨v4, h4⟩ := Fixed.f64.total_at bs 60 68 rfl (by omega)
  obtain ⟨v5, h5⟩ := Fixed.f64.total_at bs 68 76 rfl (by omega)
  obtain ⟨v6, h6⟩ := Fixed.f64.total_at bs 76 84 rfl (by omega)
  obtain ⟨v7, h7⟩ := Fixed.f64.total_at bs 84 92 rfl (by omega)
  obtain ⟨v8, h8⟩ := Fixed.f64.total_at bs 92 100 rfl (by omega)
  unfold readHeader
  rw [bind_of_ok hcode]
  simp only [ne_eq, not_true_eq_false, if_false]
  rw [bind_of_ok hpad, bind_of_ok hlen, bind_of_ok hver, bind_of_ok ht, bind_of_ok h1, bind_of_ok h2, bind_of_ok h3,
    bind_of_ok h4, bind_of_ok h5, bind_of_ok h6, bind_of_ok h7, bind_of_ok h8]
  exact ⟨_, rfl, hlen⟩

/-- the first `j` bytes of a larger big-endian number over those of a smaller one read as a number not
below the smaller one -/
theorem decU32BE_torn (a0 a1 a2 a3 b0 b1 b2 b3 : UInt8)
    (hab : decU32BE a0 a1 a2 a3 ≤ decU32BE b0 b1 b2 b3) (hb : decU32BE b0 b1 b2 b3 < 2147483648) (j : Nat) :
    ∃ c0 c1 c2 c3, [b0, b1, b2, b3].take j ++ [a0, a1, a2, a3].drop j = [c0, c1, c2, c3] ∧
      decU32BE a0 a1 a2 a3 ≤ decU32BE c0 c1 c2 c3 ∧ decU32BE c0 c1 c2 c3 < 2147483648 := by
  -- below 2^31 is a matter of the first byte
  have hi : ∀ c1 c2 c3, decU32BE b0 c1 c2 c3 < 2147483648 := fun c1 c2 c3 => by
    have := c1.toNat_lt; have := c2.toNat_lt; have := c3.toNat_lt
    unfold decU32BE decU32LE at hb ⊢
    omega
  simp only [decU32BE, decU32LE_eq] at hab hb hi ⊢
  have lo := fun i => leVal_mix [a3, a2, a1, a0] [b3, b2, b1, b0] i rfl hab
  match j with
  | 0 => exact ⟨a0, a1, a2, a3, rfl, Nat.le_refl _, Nat.lt_of_le_of_lt hab hb⟩
  | 1 => exact ⟨b0, a1, a2, a3, rfl, lo 3, hi ..⟩
  | 2 => exact ⟨b0, b1, a2, a3, rfl, lo 2, hi ..⟩
  | 3 => exact ⟨b0, b1, b2, a3, rfl, lo 1, hi ..⟩
  | j + 4 => exact ⟨b0, b1, b2, b3, by simp, hab, hb⟩

theorem encI32BE_dec (l : Int) (h0 : 0 ≤ l) (h : l < 2147483648) :
    ∃ b0 b1 b2 b3, encI32BE l = [b0, b1, b2, b3] ∧ (decU32BE b0 b1 b2 b3 : Int) = l :=
  ⟨_, _, _, _, rfl, by rw [decU32BE, decU32LE_enc _ (ofI32_lt l)]; unfold ofI32; omega⟩

theorem torn_len (l1 l2 : Int) (h0 : 0 ≤ l1) (h12 : l1 ≤ l2) (h2 : l2 < 2147483648) (j : Nat) (r : Bytes) :
    ∃ v : Int, l1 ≤ v ∧ v < 2147483648 ∧
      i32BE (((encI32BE l2).take j ++ (encI32BE l1).drop j) ++ r) = .ok v r := by
  obtain ⟨a0, a1, a2, a3, ea, ha⟩ := encI32BE_dec l1 h0 (by omega)
  obtain ⟨b0, b1, b2, b3, eb, hb⟩ := encI32BE_dec l2 (by omega) h2
  obtain ⟨c0, c1, c2, c3, hc, hlo, hhi⟩ := decU32BE_torn a0 a1 a2 a3 b0 b1 b2 b3 (by omega) (by omega) j
  refine ⟨decU32BE c0 c1 c2 c3, by omega, by omega, ?_⟩
  rw [ea, eb, hc]
  simp only [List.cons_append, List.nil_append, i32BE_cons, toI32, if_pos hhi]

theorem mid_slice (pre mid post : Bytes) (k : Nat) (hk : pre.length = k) :
    ((pre ++ (mid ++ post)).drop k).take mid.length = mid := by
  rw [List.drop_left' hk]; exact List.take_left' rfl

/-- the header encoding field by field, as far as the parser looks at the fields -/
theorem Header.enc_fields (h : Header) : ∃ box, h.enc =
    encI32BE Const.fileCode ++ (zeros 20 ++ (encI32BE h.fileLength ++ (encI32LE h.version ++
      (encI32LE h.shapeType.code ++ box)))) :=
  ⟨_, by simp only [Header.enc, List.append_assoc]; rfl⟩

theorem Header.enc_code (h : Header) : (h.enc.drop 0).take 4 = encI32BE Const.fileCode := by
  obtain ⟨box, e⟩ := h.enc_fields
  rw [e]
  exact mid_slice [] (encI32BE Const.fileCode) _ 0 rfl

theorem Header.enc_len (h : Header) : (h.enc.drop 24).take 4 = encI32BE h.fileLength := by
  obtain ⟨box, e⟩ := h.enc_fields
  rw [e, ← List.append_assoc]
  exact mid_slice (encI32BE Const.fileCode ++ zeros 20) (encI32BE h.fileLength) _ 24 (by simp [zeros])

theorem Header.enc_type (h : Header) : (h.enc.drop 32).take 4 = encI32LE h.shapeType.code := by
  obtain ⟨box, e⟩ := h.enc_fields
  rw [e, ← List.append_assoc, ← List.append_assoc, ← List.append_assoc]
  exact mid_slice (encI32BE Const.fileCode ++ zeros 20 ++ encI32BE h.fileLength ++ encI32LE h.version)
    (encI32LE h.shapeType.code) _ 32 (by simp [zeros])

/-- MAIN (torn header): the first `c` bytes of a new header written over an old one of the same
shape type, with a length at least the old one: whatever `c`, what results still parses as a header,
and the length it declares is at least the old one -/
theorem torn_header (h1 h2 : Header) (ht : h1.shapeType = h2.shapeType)
    (h0 : 0 ≤ h1.fileLength) (h12 : h1.fileLength ≤ h2.fileLength) (h2' : h2.fileLength < 2147483648)
    (c : Nat) (hc : c ≤ 100) (rest : Bytes) :
    ∃ h, readHeader ((h2.enc.take c ++ h1.enc.drop c) ++ rest) = .ok h rest ∧
      h1.fileLength ≤ h.fileLength ∧ h.fileLength < 2147483648 := by
  have hl1 := Header.enc_length h1
  have hl2 := Header.enc_length h2
  obtain ⟨mix, hmix⟩ : ∃ mix, mix = h2.enc.take c ++ h1.enc.drop c := ⟨_, rfl⟩
  have hlen : mix.length = 100 := by
    simp only [hmix, List.length_append, List.length_take, List.length_drop, hl1, hl2]; omega
  -- the field at offset `a`: the first `c - a` bytes of the new one over the old one
  have field : ∀ a, a + 4 ≤ 100 → (mix ++ rest).drop a =
      (((h2.enc.drop a).take 4).take (c - a) ++ ((h1.enc.drop a).take 4).drop (c - a)) ++ (mix ++ rest).drop (a + 4) := by
    intro a ha
    rw [← slice_mix h2.enc h1.enc c a 4 (by rw [hl1, hl2]) (by omega), ← hmix]
    rw [List.drop_append_of_le_length (by omega), List.drop_append_of_le_length (by omega), ← List.append_assoc,
      ← List.drop_drop, List.take_append_drop]
  -- file code and shape type are the same in both headers, so whole in the mixture
  have hcode := field 0 (by omega)
  rw [Header.enc_code, Header.enc_code, List.take_append_drop] at hcode
  have htype := field 32 (by omega)
  rw [Header.enc_type, Header.enc_type, ht, List.take_append_drop] at htype
  obtain ⟨h, hread, hfl⟩ := readHeader_total (mix ++ rest) (by rw [List.length_append, hlen]; omega)
    ((congrArg i32BE hcode).trans (i32BE_enc _ (by decide) _)) h2.shapeType
    ((congrArg readShapeType htype).trans (readShapeType_enc _ _))
  have hlenf := field 24 (by omega)
  rw [Header.enc_len, Header.enc_len] at hlenf
  obtain ⟨v, hv1, hv2, hv⟩ := torn_len h1.fileLength h2.fileLength h0 h12 h2' (c - 24) ((mix ++ rest).drop (24 + 4))
  rw [hlenf, hv] at hfl
  injection hfl with hv' _
  rw [List.drop_left' hlen] at hread
  exact ⟨h, hmix ▸ hread, hv' ▸ hv1, hv' ▸ hv2⟩

end Shp
