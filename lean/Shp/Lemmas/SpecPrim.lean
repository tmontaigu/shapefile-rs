/- The whitepaper encoder by itself: its number encoders produce the model's (byteorder's) bytes;
`encContent` one family of Table 1 at a time; lengths. -/
import Shp.Spec.Esri
import Shp.Lemmas.Length
namespace Shp
open Spec

theorem wrU32LE_eq (n : Nat) : wrU32LE n = encU32LE n := by
  have h (k : Nat) : UInt8.ofNat (k % 256) = u8 k := u8_congr (Nat.mod_mod k 256)
  unfold wrU32LE encU32LE
  rw [h, h, h, h]

theorem wrU32BE_eq (n : Nat) : wrU32BE n = encU32BE n := by
  unfold wrU32BE
  rw [wrU32LE_eq]; rfl

theorem ofInt32_eq (i : Int) : ofInt32 i = ofI32 i := rfl

theorem wrI32LE_eq (i : Int) : wrI32LE i = encI32LE i := by
  unfold wrI32LE encI32LE; rw [wrU32LE_eq, ofInt32_eq]
theorem wrI32BE_eq (i : Int) : wrI32BE i = encI32BE i := by
  unfold wrI32BE encI32BE; rw [wrU32BE_eq, ofInt32_eq]

theorem wrF64_eq (bits : Nat) : wrF64 bits = (F64.ofNat bits).enc := by
  unfold wrF64 F64.enc F64.ofNat
  rw [wrU32LE_eq, wrU32LE_eq, encU32LE_eq, encU32LE_eq, encU64LE_eq, UInt64.toNat_ofNat']
  calc leBytes 4 (bits % 256 ^ 4) ++ leBytes 4 (bits / 256 ^ 4)
      = leBytes 4 bits ++ leBytes 4 (bits / 256 ^ 4) := by rw [leBytes_mod (Nat.le_refl 4)]
    _ = leBytes 8 bits := (leBytes_add 4 4 bits).symm
    _ = leBytes 8 (bits % 256 ^ 8) := (leBytes_mod (Nat.le_refl 8) bits).symm

theorem map_length_map {α β : Type} (f : α → β) (parts : List (List α)) :
    (parts.map (List.map f)).map List.length = parts.map List.length := by
  simp [Function.comp_def]

end Shp

namespace Shp.Spec

@[simp] theorem wrU32LE_length (n : Nat) : (wrU32LE n).length = 4 := rfl
@[simp] theorem wrU32BE_length (n : Nat) : (wrU32BE n).length = 4 := rfl
@[simp] theorem wrI32LE_length (i : Int) : (wrI32LE i).length = 4 := rfl
@[simp] theorem wrI32BE_length (i : Int) : (wrI32BE i).length = 4 := rfl
@[simp] theorem wrF64_length (b : Nat) : (wrF64 b).length = 8 := rfl

structure TypeRow (c : Nat) (z m : Bool) (fam : Nat) : Prop where
  code_le : c ≤ 31
  m_of_z : z = true → m = true
  fam_le : fam ≤ 5
  multipatch : fam = 5 → c = 31

theorem typeInfo_row {c : Nat} {z m : Bool} {fam : Nat} (h : typeInfo c = some (z, m, fam)) : TypeRow c z m fam := by
  unfold typeInfo at h
  split at h <;> simp only [Option.some.injEq, Prod.mk.injEq, reduceCtorEq] at h <;>
    (obtain ⟨rfl, rfl, rfl⟩ := h; constructor <;> simp)

theorem encContent_of_null {r : Rec} {z m : Bool} (hi : typeInfo r.typeCode = some (z, m, 0)) :
    encContent r = wrI32LE r.typeCode := by
  unfold encContent; rw [hi]; exact List.append_nil _

theorem encContent_of_point {r : Rec} {z m : Bool} {v : V} (hi : typeInfo r.typeCode = some (z, m, 1))
    (hp : r.parts = [[v]]) :
    encContent r = wrI32LE r.typeCode ++ (wrF64 v.x ++ (wrF64 v.y ++ ((if z then wrF64 v.z else []) ++
      (if m && (r.mPresent || !z) then wrF64 v.m else [])))) := by
  unfold encContent; rw [hi, hp]; simp only [List.flatten_cons, List.flatten_nil, List.append_nil, List.append_assoc]

theorem encContent_of_multipoint {r : Rec} {z m : Bool} (hi : typeInfo r.typeCode = some (z, m, 2)) :
    encContent r = wrI32LE r.typeCode ++
      (r.box.flatMap wrF64 ++ (wrI32LE (total r.parts) ++ encVerts z m r.mPresent r)) := by
  unfold encContent; rw [hi]; simp only [List.append_assoc]

/-- polyline, polygon and multipatch differ only in the block of part types -/
theorem encContent_of_parts {r : Rec} {z m : Bool} {fam : Nat} (hi : typeInfo r.typeCode = some (z, m, fam))
    (hf : 3 ≤ fam) :
    encContent r = wrI32LE r.typeCode ++ (r.box.flatMap wrF64 ++ (wrI32LE r.parts.length ++
      (wrI32LE (total r.parts) ++ ((offsetsOf 0 r.parts).flatMap (fun (o : Nat) => wrI32LE (o : Int)) ++
      ((if fam = 5 then r.kinds else []).flatMap (fun (k : Nat) => wrI32LE (k : Int)) ++
        encVerts z m r.mPresent r))))) := by
  unfold encContent; rw [hi]
  match fam, hf with
  | 3, _ | 4, _ | 5, _ | n + 6, _ => simp

@[simp] theorem f64s_length (l : List Nat) : (l.flatMap wrF64).length = 8 * l.length := flatMap_length_const _ 8 (fun _ => rfl) l
@[simp] theorem col_length (f : V → Nat) (vs : List V) : (vs.flatMap fun v => wrF64 (f v)).length = 8 * vs.length :=
  flatMap_length_const _ 8 (fun _ => rfl) vs
@[simp] theorem xy_length (vs : List V) : (vs.flatMap fun v => wrF64 v.x ++ wrF64 v.y).length = 16 * vs.length :=
  flatMap_length_const _ 16 (fun _ => rfl) vs
@[simp] theorem ints_length (l : List Nat) : (l.flatMap fun (o : Nat) => wrI32LE (o : Int)).length = 4 * l.length :=
  flatMap_length_const _ 4 (fun _ => rfl) l

theorem encVerts_length_even (hasZ hasM mp : Bool) (r : Rec) : (encVerts hasZ hasM mp r).length % 2 = 0 := by
  unfold encVerts
  simp only [List.length_append, xy_length]
  split <;> split <;> simp only [List.length_append, col_length, wrF64_length, List.length_nil] <;>
    simp [Nat.add_mod, Nat.mul_mod]

theorem encContent_length_even (r : Rec) (h : (typeInfo r.typeCode).isSome) :
    (encContent r).length % 2 = 0 ∧ 4 ≤ (encContent r).length := by
  obtain ⟨⟨hasZ, hasM, fam⟩, hi⟩ := Option.isSome_iff_exists.mp h
  have hv := encVerts_length_even hasZ hasM r.mPresent r
  match fam, hi with
  | 0, hi => rw [encContent_of_null hi]; simp
  | 1, hi =>
    unfold encContent; rw [hi]; simp only
    split
    · simp only [List.length_append, wrI32LE_length, wrF64_length]
      split <;> split <;> simp
    · simp
  | 2, hi =>
    rw [encContent_of_multipoint hi]
    simp only [List.length_append, wrI32LE_length, f64s_length]
    simp [Nat.add_mod, Nat.mul_mod, hv]
  | n + 3, hi =>
    rw [encContent_of_parts hi (by omega)]
    simp only [List.length_append, wrI32LE_length, f64s_length, ints_length]
    simp [Nat.add_mod, Nat.mul_mod, hv]

theorem encRecord_length (r : Rec) : (encRecord r).length = 8 + (encContent r).length := by
  simp only [encRecord, List.length_append, wrI32BE_length]

theorem body_even (recs : List Rec) (h : ∀ r ∈ recs, (encContent r).length % 2 = 0) :
    (recs.flatMap encRecord).length % 2 = 0 := by
  induction recs with
  | nil => rfl
  | cons r rs ih =>
    have := ih fun x hx => h x (List.mem_cons_of_mem _ hx)
    have := h r List.mem_cons_self
    simp only [List.flatMap_cons, List.length_append, encRecord_length]
    omega

theorem length_le_body (recs : List Rec) : recs.length ≤ (recs.flatMap encRecord).length := by
  induction recs with
  | nil => exact Nat.le_refl 0
  | cons r rs ih =>
    simp only [List.flatMap_cons, List.length_append, encRecord_length, List.length_cons]
    omega

end Shp.Spec
