/- Round trips of the number codecs, of the repetition combinators and of the type codes. -/
import Shp.Lemmas.Post
import Shp.Model.Decode
namespace Shp
open Dec

theorem i32LE_enc (i : Int) (h : InI32 i) (rest : Bytes) : i32LE (encI32LE i ++ rest) = .ok i rest :=
  (i32LE_cons _ _ _ _ rest).trans (by rw [decU32LE_enc _ (ofI32_lt i), toI32_ofI32 h])

theorem i32BE_enc (i : Int) (h : InI32 i) (rest : Bytes) : i32BE (encI32BE i ++ rest) = .ok i rest :=
  (i32BE_cons _ _ _ _ rest).trans (by rw [decU32BE, decU32LE_enc _ (ofI32_lt i), toI32_ofI32 h])

theorem f64_enc (a : F64) (rest : Bytes) : f64 (a.enc ++ rest) = .ok a rest := by
  simp only [Dec.f64, F64.enc, encU64LE, List.cons_append, List.nil_append, F64.dec]
  rw [decU64LE_enc _ a.bits.toNat_lt, F64.ofNat_toNat]

theorem bind_f64_enc {β : Type} (f : F64 → Dec β) (a : F64) (rest : Bytes) : Dec.bind f64 f (a.enc ++ rest) = f a rest :=
  bind_of_ok (f64_enc a rest)

/-- `g`: what the element decoder normalises away -/
theorem repeatN_exact_map {α β : Type} (d : Dec β) (enc : α → Bytes) (g : α → β) (l : List α)
    (h : ∀ a ∈ l, ∀ r, d (enc a ++ r) = .ok (g a) r) (rest : Bytes) :
    repeatN l.length d (l.flatMap enc ++ rest) = .ok (l.map g) rest := by
  induction l with
  | nil => rfl
  | cons a as ih =>
    simp only [List.length_cons, Dec.repeatN, List.flatMap_cons, List.append_assoc, List.map_cons]
    rw [bind_of_ok (h a List.mem_cons_self _), bind_of_ok (ih fun x hx => h x (List.mem_cons_of_mem _ hx))]
    rfl

theorem repeatN_exact {α : Type} (d : Dec α) (enc : α → Bytes) (l : List α)
    (h : ∀ a ∈ l, ∀ r, d (enc a ++ r) = .ok a r) (rest : Bytes) :
    repeatN l.length d (l.flatMap enc ++ rest) = .ok l rest := by
  simpa only [List.map_id] using repeatN_exact_map d enc id l h rest

/-- `hh a`: the partially built value that `f` completes from the encoding of `a` -/
theorem mapM'_exact_map {α β γ : Type} (f : β → Dec γ) (hh : α → β) (enc : α → Bytes) (g : α → γ) (l : List α)
    (h : ∀ a r, f (hh a) (enc a ++ r) = .ok (g a) r) (rest : Bytes) :
    mapM' f (l.map hh) (l.flatMap enc ++ rest) = .ok (l.map g) rest := by
  induction l with
  | nil => rfl
  | cons a as ih =>
    simp only [List.map_cons, Dec.mapM', List.flatMap_cons, List.append_assoc]
    rw [bind_of_ok (h a _), bind_of_ok ih]
    rfl

theorem ShapeType.code_inI32 (t : ShapeType) : InI32 t.code := by cases t <;> decide

theorem ShapeType.ofCode_code (t : ShapeType) : ShapeType.ofCode t.code = some t := by cases t <;> rfl

theorem readShapeType_enc (t : ShapeType) (r : Bytes) : readShapeType (encI32LE t.code ++ r) = .ok t r := by
  rw [readShapeType, bind_of_ok (i32LE_enc _ t.code_inI32 _), ShapeType.ofCode_code]
  rfl

theorem PatchKind.code_inI32 (k : PatchKind) : InI32 k.code := by cases k <;> decide

theorem patchKind_roundtrip (k : PatchKind) : (PatchKind.ofCode k.code).map PatchKind.readAs = some k := by
  cases k <;> decide

theorem readPatchKind_enc (k : PatchKind) (r : Bytes) : readPatchKind (encI32LE k.code ++ r) = .ok k r := by
  obtain ⟨k', hk, hr⟩ := Option.map_eq_some_iff.mp (patchKind_roundtrip k)
  rw [readPatchKind, bind_of_ok (i32LE_enc _ k.code_inI32 _), hk, ← hr]
  rfl

end Shp
