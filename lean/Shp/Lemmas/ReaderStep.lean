/-
What each operation of the reader state machine does, case by case, stated once with variables.
-/
import Shp.Model.Reader
import Shp.Lemmas.Decoders
namespace Shp
open Dec

theorem RState.open_none {shp : Bytes} {h : Header} {rest : Bytes} (hh : readHeader shp = .ok h rest) :
    RState.open shp none = .ok ⟨shp, 100, h, none, some 100, 0⟩ := by
  obtain ⟨hl, rfl⟩ := readHeader_eats shp h rest hh
  unfold RState.open
  simp only [hh, List.length_drop, Const.headerSize]
  rw [show shp.length - (shp.length - 100) = 100 by omega]

theorem RState.open_some {shp shx : Bytes} {idx : List IndexEntry} {xr : Bytes} {h : Header} {rest : Bytes}
    (hx : readIndexFile shx = .ok idx xr) (hh : readHeader shp = .ok h rest) :
    RState.open shp (some shx) = .ok ⟨shp, 100, h, some idx, some 100, 0⟩ := by
  obtain ⟨hl, rfl⟩ := readHeader_eats shp h rest hh
  unfold RState.open
  simp only [hx, hh, List.length_drop, Const.headerSize]
  rw [show shp.length - (shp.length - 100) = 100 by omega]

theorem RState.open_none_header_err {shp : Bytes} {e : Err} (hh : readHeader shp = .err e) :
    RState.open shp none = .error (.err e) := by
  unfold RState.open; simp only [hh]

theorem RState.open_index_err {shp shx : Bytes} {e : Err} (hx : readIndexFile shx = .err e) :
    RState.open shp (some shx) = .error (.err e) := by
  unfold RState.open; simp only [hx]

theorem RState.open_some_header_err {shp shx : Bytes} {idx : List IndexEntry} {xr : Bytes} {e : Err}
    (hx : readIndexFile shx = .ok idx xr) (hh : readHeader shp = .err e) :
    RState.open shp (some shx) = .error (.err e) := by
  unfold RState.open; simp only [hx, hh]

theorem RState.open_none_ok {shp : Bytes} {st : RState} (h : RState.open shp none = .ok st) :
    ∃ hd rest, readHeader shp = .ok hd rest ∧ st = ⟨shp, 100, hd, none, some 100, 0⟩ := by
  rcases readHeader_noPanic.ok_or_err shp with ⟨hd, rest, hr⟩ | ⟨e, hr⟩
  · rw [RState.open_none hr] at h; cases h; exact ⟨hd, rest, hr, rfl⟩
  · rw [RState.open_none_header_err hr] at h; cases h

theorem RState.open_some_ok {shp shx : Bytes} {st : RState} (h : RState.open shp (some shx) = .ok st) :
    ∃ idx xr hd rest, readIndexFile shx = .ok idx xr ∧ readHeader shp = .ok hd rest ∧
      st = ⟨shp, 100, hd, some idx, some 100, 0⟩ := by
  rcases readIndexFile_noPanic.ok_or_err shx with ⟨idx, xr, hx⟩ | ⟨e, hx⟩
  · rcases readHeader_noPanic.ok_or_err shp with ⟨hd, rest, hr⟩ | ⟨e, hr⟩
    · rw [RState.open_some hx hr] at h; cases h; exact ⟨idx, xr, hd, rest, hx, hr, rfl⟩
    · rw [RState.open_some_header_err hx hr] at h; cases h
  · rw [RState.open_index_err hx] at h; cases h

/-- opening never panics -/
theorem RState.open_error {shp : Bytes} {shx : Option Bytes} {e : ROut} (h : RState.open shp shx = .error e) :
    ∃ er, e = .err er := by
  cases shx with
  | none =>
    rcases readHeader_noPanic.ok_or_err shp with ⟨hd, rest, hr⟩ | ⟨er, hr⟩
    · rw [RState.open_none hr] at h; cases h
    · rw [RState.open_none_header_err hr] at h; cases h; exact ⟨er, rfl⟩
  | some shx =>
    rcases readIndexFile_noPanic.ok_or_err shx with ⟨idx, xr, hx⟩ | ⟨er, hx⟩
    · rcases readHeader_noPanic.ok_or_err shp with ⟨hd, rest, hr⟩ | ⟨er, hr⟩
      · rw [RState.open_some hx hr] at h; cases h
      · rw [RState.open_some_header_err hx hr] at h; cases h; exact ⟨er, rfl⟩
    · rw [RState.open_index_err hx] at h; cases h; exact ⟨er, rfl⟩

theorem RState.readHere_ok {o : Orient} {tg : Target} {st : RState} {w : Int} {s : Shape} {rest : Bytes}
    (h : readOneShape o tg (st.data.drop st.srcPos) = .ok (w, s) rest) :
    st.readHere o tg =
      ({ st with srcPos := st.data.length - rest.length,
                 currentPos := st.currentPos.map fun p => p + 8 + (2 * w).toNat }, .shape s) := by
  unfold RState.readHere; rw [h]; rfl

theorem RState.readHere_err {o : Orient} {tg : Target} {st : RState} {e : Err}
    (h : readOneShape o tg (st.data.drop st.srcPos) = .err e) :
    st.readHere o tg = ({ st with currentPos := none }, .err e) := by
  unfold RState.readHere; rw [h]

/-- `hcons`: the declared length `w` is what the decoder consumed, so the book-keeping stays right -/
theorem RState.readHere_record {o : Orient} {tg : Target} {st : RState} {w : Int} {s : Shape} {rest : Bytes}
    (hp : st.currentPos = some st.srcPos) (h : readOneShape o tg (st.data.drop st.srcPos) = .ok (w, s) rest)
    (hcons : st.srcPos + 8 + (2 * w).toNat + rest.length = st.data.length) :
    st.readHere o tg =
      ({ st with srcPos := st.srcPos + 8 + (2 * w).toNat, currentPos := some (st.srcPos + 8 + (2 * w).toNat) },
       .shape s) := by
  rw [RState.readHere_ok h, hp, Option.map_some,
    show st.data.length - rest.length = st.srcPos + 8 + (2 * w).toNat by omega]

theorem record_end {data b post : Bytes} {p w : Nat} (hd : data.drop p = b ++ post) (hb : b.length = 8 + 2 * w) :
    p + 8 + (2 * (w : Int)).toNat + post.length = data.length := by
  have hl := congrArg List.length hd
  rw [List.length_drop, List.length_append, hb] at hl
  omega

theorem RState.readHere_whole {o : Orient} {tg : Target} {st : RState} {b post : Bytes} {w : Nat} {s : Shape}
    (hp : st.currentPos = some st.srcPos) (hd : st.data.drop st.srcPos = b ++ post)
    (hread : readOneShape o tg (b ++ post) = .ok ((w : Int), s) post) (hb : b.length = 8 + 2 * w) :
    st.readHere o tg =
      ({ st with srcPos := st.srcPos + (8 + 2 * w), currentPos := some (st.srcPos + (8 + 2 * w)) }, .shape s) := by
  rw [RState.readHere_record hp (hd ▸ hread) (record_end hd hb), show (2 * (w : Int)).toNat = 2 * w by omega,
    Nat.add_assoc]

theorem RState.readHere_cases (o : Orient) (tg : Target) (st : RState) :
    (∃ w s rest, readOneShape o tg (st.data.drop st.srcPos) = .ok (w, s) rest ∧
      st.readHere o tg = ({ st with srcPos := st.data.length - rest.length,
                                    currentPos := st.currentPos.map fun p => p + 8 + (2 * w).toNat }, .shape s)) ∨
    ∃ e, st.readHere o tg = ({ st with currentPos := none }, .err e) := by
  rcases (readOneShape_noPanic o tg).ok_or_err (st.data.drop st.srcPos) with ⟨⟨w, s⟩, rest, h⟩ | ⟨e, h⟩
  · exact .inl ⟨w, s, rest, h, RState.readHere_ok h⟩
  · exact .inr ⟨e, RState.readHere_err h⟩

theorem RState.readHere_frame (o : Orient) (tg : Target) (st : RState) :
    (st.readHere o tg).1.index = st.index ∧ (st.readHere o tg).1.nextShape = st.nextShape ∧
      (st.readHere o tg).1.data = st.data := by
  unfold RState.readHere
  split <;> exact ⟨rfl, rfl, rfl⟩

/-- bytes; a negative `fileLength` counts as 0 -/
abbrev RState.declaredEnd (st : RState) : Nat := ((wordsToBytes st.header.fileLength).getD 0).toNat

theorem RState.declaredEnd_nonneg {st : RState} (h : 0 ≤ st.header.fileLength) :
    st.declaredEnd = (2 * st.header.fileLength).toNat := by
  rw [RState.declaredEnd, wordsToBytes_nonneg h]
  rfl

theorem RState.iterNext_seq {o : Orient} {tg : Target} {st : RState} {p : Nat} (hi : st.index = none)
    (hp : st.currentPos = some p) :
    st.iterNext o tg = if st.declaredEnd ≤ p then (st, .none) else st.readHere o tg := by
  unfold RState.iterNext; simp only [hi, hp]

theorem RState.iterNext_stopped {o : Orient} {tg : Target} {st : RState} (hi : st.index = none)
    (hp : st.currentPos = none) : st.iterNext o tg = (st, .none) := by
  unfold RState.iterNext; simp only [hi, hp]

theorem RState.iterNext_idx_end {o : Orient} {tg : Target} {st : RState} {idx : List IndexEntry}
    (hi : st.index = some idx) (hk : idx.length ≤ st.nextShape) : st.iterNext o tg = (st, .none) := by
  unfold RState.iterNext; simp only [hi, List.getElem?_eq_none hk]

theorem RState.iterNext_entry {o : Orient} {tg : Target} {st : RState} {idx : List IndexEntry}
    (hi : st.index = some idx) (hk : st.nextShape < idx.length) :
    st.iterNext o tg =
      match wordsToBytes idx[st.nextShape].offset with
      | none => ({ st with nextShape := st.nextShape + 1 }, .err .recSize)
      | some start =>
        RState.readHere o tg
          (if st.currentPos = some start.toNat then { st with nextShape := st.nextShape + 1 }
           else { st with srcPos := start.toNat, currentPos := some start.toNat, nextShape := st.nextShape + 1 }) := by
  unfold RState.iterNext
  simp only [hi, List.getElem?_eq_getElem hk]
  rfl

/-- with a truthful `currentPos`, whether `next()` seeks first makes no difference to the state it
reads from -/
theorem RState.iterNext_idx {o : Orient} {tg : Target} {st : RState} {idx : List IndexEntry}
    (hi : st.index = some idx) (hk : st.nextShape < idx.length) (hoff : 0 ≤ idx[st.nextShape].offset)
    (htruth : ∀ p, st.currentPos = some p → st.srcPos = p) :
    st.iterNext o tg =
      RState.readHere o tg { st with srcPos := (2 * idx[st.nextShape].offset).toNat,
                                     currentPos := some (2 * idx[st.nextShape].offset).toNat,
                                     nextShape := st.nextShape + 1 } := by
  rw [RState.iterNext_entry hi hk, wordsToBytes_nonneg hoff]
  dsimp only
  split
  · next hc => rw [htruth _ hc, ← hc]
  · rfl

theorem RState.iterNext_cases (o : Orient) (tg : Target) (st : RState) :
    st.iterNext o tg = (st, .none) ∨
    (∃ idx, st.index = some idx ∧ st.nextShape < idx.length ∧
      (st.iterNext o tg = ({ st with nextShape := st.nextShape + 1 }, .err .recSize) ∨
       ∃ p c, st.iterNext o tg =
         RState.readHere o tg { st with srcPos := p, currentPos := c, nextShape := st.nextShape + 1 })) ∨
    (st.index = none ∧ st.currentPos ≠ none ∧ st.iterNext o tg = st.readHere o tg) := by
  rcases Option.eq_none_or_eq_some st.index with hi | ⟨idx, hi⟩
  · rcases Option.eq_none_or_eq_some st.currentPos with hp | ⟨p, hp⟩
    · exact .inl (RState.iterNext_stopped hi hp)
    · rw [RState.iterNext_seq hi hp]
      split
      · exact .inl rfl
      · exact .inr (.inr ⟨hi, by simp [hp], rfl⟩)
  · by_cases hk : st.nextShape < idx.length
    · refine .inr (.inl ⟨idx, hi, hk, ?_⟩)
      rw [RState.iterNext_entry hi hk]
      cases wordsToBytes idx[st.nextShape].offset with
      | none => exact .inl rfl
      | some start =>
        refine .inr ?_
        dsimp only
        split
        · exact ⟨_, _, rfl⟩
        · exact ⟨_, _, rfl⟩
    · exact .inl (RState.iterNext_idx_end hi (Nat.le_of_not_lt hk))

theorem RState.iterNext_frame (o : Orient) (tg : Target) (st : RState) :
    (st.iterNext o tg).1.index = st.index ∧ (st.iterNext o tg).1.data = st.data := by
  rcases RState.iterNext_cases o tg st with h | ⟨_, _, _, h | ⟨_, _, h⟩⟩ | ⟨_, _, h⟩
  · rw [h]; exact ⟨rfl, rfl⟩
  · rw [h]; exact ⟨rfl, rfl⟩
  · rw [h]; exact ⟨(RState.readHere_frame o tg _).1, (RState.readHere_frame o tg _).2.2⟩
  · rw [h]; exact ⟨(RState.readHere_frame o tg _).1, (RState.readHere_frame o tg _).2.2⟩

theorem RState.seek_noIndex {st : RState} (hi : st.index = none) (k : Nat) : st.seek k = (st, .err .noIndex) := by
  unfold RState.seek; simp only [hi]

theorem RState.seek_entry {st : RState} {idx : List IndexEntry} {k : Nat} (hi : st.index = some idx)
    (hk : k < idx.length) :
    st.seek k =
      match wordsToBytes idx[k].offset with
      | none => (st, .err .recSize)
      | some start =>
        ({ st with srcPos := start.toNat, currentPos := some start.toNat, nextShape := min k idx.length }, .unit) := by
  unfold RState.seek
  simp only [hi, List.getElem?_eq_getElem hk]
  rfl

theorem RState.seek_end {st : RState} {idx : List IndexEntry} {k : Nat} (hi : st.index = some idx)
    (hk : idx.length ≤ k) :
    st.seek k =
      ({ st with srcPos := st.data.length, currentPos := some st.data.length, nextShape := min k idx.length },
       .unit) := by
  unfold RState.seek
  simp only [hi, List.getElem?_eq_none hk]

theorem RState.readNth_noIndex {o : Orient} {tg : Target} {st : RState} (hi : st.index = none) (i : Nat) :
    st.readNth o tg i = (st, .err .noIndex) := by
  unfold RState.readNth; simp only [hi]

theorem RState.readNth_end {o : Orient} {tg : Target} {st : RState} {idx : List IndexEntry} {i : Nat}
    (hi : st.index = some idx) (hk : idx.length ≤ i) : st.readNth o tg i = (st, .none) := by
  unfold RState.readNth; simp only [hi, if_pos hk]

theorem RState.readNth_entry {o : Orient} {tg : Target} {st : RState} {idx : List IndexEntry} {i : Nat}
    (hi : st.index = some idx) (hk : i < idx.length) :
    st.readNth o tg i =
      match wordsToBytes idx[i].offset with
      | none => (st, .err .recSize)
      | some start =>
        match readOneShape o tg (st.data.drop start.toNat) with
        | .ok (_, s) _ => ({ st with srcPos := 100, currentPos := some 100, nextShape := 0 }, .shape s)
        | .err e => ({ st with srcPos := start.toNat, currentPos := none, nextShape := 0 }, .err e)
        | .panic m => ({ st with srcPos := start.toNat, currentPos := none, nextShape := 0 }, .panic m) := by
  unfold RState.readNth
  simp only [hi, if_neg (Nat.not_le_of_lt hk), RState.seek_entry hi hk]
  cases wordsToBytes idx[i].offset with
  | none => rfl
  | some start =>
    dsimp only
    cases readOneShape o tg (st.data.drop start.toNat) <;> rfl

theorem RState.iterAll_succ (o : Orient) (tg : Target) (fuel : Nat) (st : RState) :
    st.iterAll o tg (fuel + 1) =
      if (st.iterNext o tg).2 = .none then ((st.iterNext o tg).1, [])
      else (((st.iterNext o tg).1.iterAll o tg fuel).1,
        (st.iterNext o tg).2 :: ((st.iterNext o tg).1.iterAll o tg fuel).2) := by
  rw [RState.iterAll]
  rcases st.iterNext o tg with ⟨st1, out⟩
  cases out <;> rfl

theorem RState.iterAll_succ_none {o : Orient} {tg : Target} {st st1 : RState} (fuel : Nat)
    (h : st.iterNext o tg = (st1, .none)) : st.iterAll o tg (fuel + 1) = (st1, []) := by
  rw [RState.iterAll_succ, h, if_pos rfl]

theorem RState.iterAll_succ_cons {o : Orient} {tg : Target} {st st1 : RState} {out : ROut} (fuel : Nat)
    (h : st.iterNext o tg = (st1, out)) (hne : out ≠ .none) :
    st.iterAll o tg (fuel + 1) = ((st1.iterAll o tg fuel).1, out :: (st1.iterAll o tg fuel).2) := by
  rw [RState.iterAll_succ, h, if_neg hne]

theorem RState.iterAll_of_none {o : Orient} {tg : Target} {st : RState} (h : st.iterNext o tg = (st, .none))
    (fuel : Nat) : st.iterAll o tg fuel = (st, []) := by
  cases fuel with
  | zero => rfl
  | succ f => exact RState.iterAll_succ_none f h

/-- without index an error is the last item: the failed read leaves `currentPos = none` -/
theorem RState.iterAll_seq_err {o : Orient} {tg : Target} {st : RState} {e : Err} (hi : st.index = none)
    (hn : st.iterNext o tg = ({ st with currentPos := none }, .err e)) (fuel : Nat) :
    st.iterAll o tg (fuel + 1) = ({ st with currentPos := none }, [.err e]) := by
  rw [RState.iterAll_succ_cons fuel hn (by simp),
    RState.iterAll_of_none (RState.iterNext_stopped (st := { st with currentPos := none }) hi rfl)]

theorem RState.iterAll_seq_done {o : Orient} {tg : Target} {st : RState} {p : Nat} (hi : st.index = none)
    (hp : st.currentPos = some p) (h : st.declaredEnd ≤ p) (fuel : Nat) :
    st.iterAll o tg fuel = (st, []) :=
  RState.iterAll_of_none (by rw [RState.iterNext_seq hi hp, if_pos h]) fuel

theorem RState.fuel_ge_index {st : RState} {idx : List IndexEntry} (h : st.index = some idx) : idx.length ≤ st.fuel := by
  simp only [RState.fuel, h]
  omega

theorem RState.fuel_ge_data (st : RState) : st.data.length + 2 ≤ st.fuel := by
  unfold RState.fuel; omega

end Shp
