/-
The writer on healthy destinations.  A call is its plan, and a plan acts on each destination by the
operations it has for it (`World.call_of_plan`), which for `write_shape` and `finalize` are the
`writeOps`/`finalizeOps` of Lemmas/Dest.  The invariant `WInv`: after the shapes `ss` were accepted
the .shp is `header ++ records` and the .shx `header ++ entries`, positions at the end, and the
state's running header describes exactly `ss`.
-/
import Shp.Lemmas.Dest
import Shp.Lemmas.Length
namespace Shp

open C12 (Mid)

def C11.opsFor (d : DestId) (ops : List (DestId × IOOp)) : List IOOp :=
  ops.filterMap fun x => if x.1 = d then some x.2 else none

open C11 (opsFor)

theorem foldl_applyOp (w : World) (ops : List (DestId × IOOp)) :
    ops.foldl World.applyOp w = ⟨w.st, w.shp.applyAll (opsFor .shp ops), w.shx.applyAll (opsFor .shx ops)⟩ := by
  induction ops generalizing w with
  | nil => rfl
  | cons x xs ih =>
    obtain ⟨i, op⟩ := x
    cases i <;> simp [ih, opsFor, World.applyOp, Dst.applyAll]

theorem World.call_of_plan {w : World} {c : WCall} {p : Plan} (hp : plan w.st c = .ok p) :
    w.call c = (⟨p.post, w.shp.applyAll (opsFor .shp p.ops), w.shx.applyAll (opsFor .shx p.ops)⟩, .ok ()) := by
  simp only [World.call, hp, foldl_applyOp]

theorem World.call_of_error {w : World} {c : WCall} {e : Err} (hp : plan w.st c = .error e) : w.call c = (w, .error e) := by
  simp only [World.call, hp]

def World.dst (w : World) : DestId → Dst
  | .shp => w.shp
  | .shx => w.shx

theorem World.dst_shp (w : World) : w.dst .shp = w.shp := rfl

/-- what a call issues to destination `d`: its plan's operations, none if it is refused -/
def callOps (d : DestId) (w : World) (c : WCall) : List IOOp :=
  match plan w.st c with
  | .ok p => opsFor d p.ops
  | .error _ => []

theorem callOps_of_plan {w : World} {c : WCall} {p : Plan} (hp : plan w.st c = .ok p) (d : DestId) :
    callOps d w c = opsFor d p.ops := by
  rw [callOps, hp]

theorem callOps_of_error {w : World} {c : WCall} {e : Err} (hp : plan w.st c = .error e) (d : DestId) :
    callOps d w c = [] := by
  rw [callOps, hp]

theorem World.call_dst (w : World) (c : WCall) (d : DestId) :
    (w.call c).1.dst d = (w.dst d).applyAll (callOps d w c) := by
  cases hp : plan w.st c with
  | error e =>
    rw [World.call_of_error hp, callOps_of_error hp]
    rfl
  | ok p =>
    rw [World.call_of_plan hp, callOps_of_plan hp]
    cases d <;> rfl

/-- the header an accepted `write_shape` works with: the first shape gives the file its type -/
def firstHeader (st : WState) (s : Shape) : Header :=
  { st.header with shapeType := s.writeType,
                   bbox := if st.header.shapeType = .nullShape then sentinelBox else st.header.bbox }

def postWrite (st : WState) (s : Shape) : WState :=
  { st with header := { firstHeader st s with fileLength := st.header.fileLength + recordSizeWords s + 4,
                                              bbox := growFromShape s.writeType (firstHeader st s).bbox s },
            recNum := st.recNum + 1, dirty := true }

def writePlan (st : WState) (s : Shape) : Plan :=
  { pre := { st with header := firstHeader st s },
    ops := (if st.header.shapeType = .nullShape then
              [(.shp, .seekStart 0), (.shp, .write (firstHeader st s).enc)] ++
              (if st.hasShx then [(.shx, .seekStart 0), (.shx, .write (firstHeader st s).enc)] else [])
            else []) ++
           [(.shp, .write (encRecord st.recNum s.writeType s))] ++
           (if st.hasShx then [(.shx, .write (IndexEntry.enc ⟨st.header.fileLength, recordSizeWords s⟩))] else []),
    post := postWrite st s }

theorem plan_write_eq (st : WState) (s : Shape) :
    plan st (.writeShape s) =
      if st.header.shapeType = .nullShape ∨ st.header.shapeType = s.writeType then .ok (writePlan st s)
      else .error (.mismatch st.header.shapeType s.writeType) := by
  unfold plan planWriteShape writePlan postWrite firstHeader
  by_cases h1 : st.header.shapeType = .nullShape
  · simp [h1]
  · by_cases h2 : st.header.shapeType = s.writeType
    · simp [h1, ← h2]
    · simp [h1, h2]

theorem plan_write_accepted {st : WState} {s : Shape}
    (h : st.header.shapeType = .nullShape ∨ st.header.shapeType = s.writeType) :
    plan st (.writeShape s) = .ok (writePlan st s) :=
  (plan_write_eq st s).trans (if_pos h)

theorem plan_write_refused {st : WState} {s : Shape}
    (h : ¬ (st.header.shapeType = .nullShape ∨ st.header.shapeType = s.writeType)) :
    plan st (.writeShape s) = .error (.mismatch st.header.shapeType s.writeType) :=
  (plan_write_eq st s).trans (if_neg h)

theorem plan_write_rejected (st : WState) (s : Shape) (hn : st.header.shapeType ≠ .nullShape)
    (ht : st.header.shapeType ≠ s.writeType) :
    planWriteShape st s = .error (.mismatch st.header.shapeType s.writeType) :=
  plan_write_refused fun h => h.elim hn ht

/-- the .shp is always there, the .shx if the writer was given one -/
def WState.has (st : WState) : DestId → Bool
  | .shp => true
  | .shx => st.hasShx

/-- what an accepted `write_shape` appends: the record, its index entry -/
def WState.chunk (st : WState) (s : Shape) : DestId → Bytes
  | .shp => encRecord st.recNum s.writeType s
  | .shx => IndexEntry.enc ⟨st.header.fileLength, recordSizeWords s⟩

theorem opsFor_writePlan (st : WState) (s : Shape) (d : DestId) :
    opsFor d (writePlan st s).ops =
      if st.has d then writeOps (st.header.shapeType = .nullShape) (firstHeader st s).enc (st.chunk s d) else [] := by
  cases d
  · simp only [writePlan, writeOps, opsFor, WState.has, if_true]
    split <;> cases st.hasShx <;> rfl
  · simp only [writePlan, writeOps, opsFor, WState.has]
    split <;> cases st.hasShx <;> rfl

theorem call_write_rejected (w : World) (s : Shape) (hn : w.st.header.shapeType ≠ .nullShape)
    (ht : w.st.header.shapeType ≠ s.writeType) :
    w.call (.writeShape s) = (w, .error (.mismatch w.st.header.shapeType s.writeType)) :=
  World.call_of_error (plan_write_rejected w.st s hn ht)

/-- the header `finalize` writes: the running header, untouched sentinels replaced; for the .shx
with 50 words of header and 4 for each of the `recNum - 1` entries
(writer.rs: `HEADER_SIZE / 2 + (rec_num - 1) * 2 * size_of::<i32>() / 2`) -/
def WState.finalHeader (st : WState) : DestId → Header
  | .shp => { st.header with bbox := finalizeBox st.header.bbox }
  | .shx => { st.header with bbox := finalizeBox st.header.bbox,
                             fileLength := (Const.headerSize : Int) / 2 + ((st.recNum : Int) - 1) * 2 * 4 / 2 }

theorem planFinalize_clean {st : WState} (hd : st.dirty = false) : planFinalize st = ⟨st, [], st⟩ := by
  simp [planFinalize, hd]

theorem planFinalize_dirty {st : WState} (hd : st.dirty = true) :
    planFinalize st =
      { pre := st,
        ops := (finalizeOps (st.finalHeader .shp).enc).map (Prod.mk .shp) ++
               (if st.hasShx then finalizeOps (st.finalHeader .shx).enc else []).map (Prod.mk .shx),
        post := { st with dirty := false } } := by
  unfold planFinalize WState.finalHeader finalizeOps
  cases st.hasShx <;> simp [hd]

theorem opsFor_planFinalize {st : WState} (hd : st.dirty = true) (d : DestId) :
    opsFor d (planFinalize st).ops = if st.has d then finalizeOps (st.finalHeader d).enc else [] := by
  rw [planFinalize_dirty hd]
  cases d <;> cases hx : st.hasShx <;> simp only [WState.has, hx] <;> rfl

theorem call_finalize_clean (w : World) (hd : w.st.dirty = false) : w.call .finalize = (w, .ok ()) := by
  rw [World.call_of_plan rfl, planFinalize_clean hd]
  rfl

theorem call_finalize_dirty (w : World) (hd : w.st.dirty = true) :
    w.call .finalize =
      ({ st := { w.st with dirty := false }, shp := w.shp.applyAll (finalizeOps (w.st.finalHeader .shp).enc),
         shx := if w.st.hasShx then w.shx.applyAll (finalizeOps (w.st.finalHeader .shx).enc) else w.shx }, .ok ()) := by
  rw [World.call_of_plan rfl, opsFor_planFinalize hd, opsFor_planFinalize hd, planFinalize_dirty hd]
  cases hx : w.st.hasShx <;> simp [hx, WState.has, Dst.applyAll]

theorem World.call_hasShx (w : World) (c : WCall) : (w.call c).1.st.hasShx = w.st.hasShx := by
  cases c with
  | finalize =>
    cases hd : w.st.dirty
    · rw [call_finalize_clean w hd]
    · rw [call_finalize_dirty w hd]
  | writeShape s =>
    by_cases h : w.st.header.shapeType = .nullShape ∨ w.st.header.shapeType = s.writeType
    · rw [World.call_of_plan (plan_write_accepted h)]
      rfl
    · rw [World.call_of_error (plan_write_refused h)]

theorem World.run_cons (w : World) (c : WCall) (cs : List WCall) : w.run (c :: cs) = (w.call c).1.run cs := rfl

theorem World.run_concat (w : World) (cs : List WCall) (c : WCall) : w.run (cs ++ [c]) = ((w.run cs).call c).1 := by
  simp [World.run, List.foldl_append]

theorem World.run_hasShx (w : World) (cs : List WCall) : (w.run cs).st.hasShx = w.st.hasShx := by
  induction cs generalizing w with
  | nil => rfl
  | cons c cs ih => exact (ih (w.call c).1).trans (w.call_hasShx c)

theorem World.run_has (w : World) (cs : List WCall) (d : DestId) : (w.run cs).st.has d = w.st.has d := by
  cases d
  · rfl
  · exact w.run_hasShx cs

def recordsFrom (t : ShapeType) (k : Nat) : List Shape → Bytes
  | [] => []
  | s :: ss => encRecord k t s ++ recordsFrom t (k + 1) ss

/-- the length of the record stream in 16-bit words: 4 words of record header before each content -/
def totalWords : List Shape → Nat
  | [] => 0
  | s :: ss => recordSizeWords s + 4 + totalWords ss

/-- `off`: the word offset of the first record (50 behind a file header) -/
def entriesFrom (off : Nat) : List Shape → Bytes
  | [] => []
  | s :: ss => IndexEntry.enc ⟨off, recordSizeWords s⟩ ++ entriesFrom (off + recordSizeWords s + 4) ss

theorem recordsFrom_append (t : ShapeType) (k : Nat) (a b : List Shape) :
    recordsFrom t k (a ++ b) = recordsFrom t k a ++ recordsFrom t (k + a.length) b := by
  induction a generalizing k with
  | nil => simp [recordsFrom]
  | cons x xs ih =>
    simp only [List.cons_append, recordsFrom, ih, List.append_assoc, List.length_cons]
    congr 3
    omega

theorem recordsFrom_snoc (t : ShapeType) (k : Nat) (ss : List Shape) (s : Shape) :
    recordsFrom t k (ss ++ [s]) = recordsFrom t k ss ++ encRecord ((ss.length + k : Nat) : Int) t s := by
  rw [recordsFrom_append, recordsFrom, recordsFrom, List.append_nil, Nat.add_comm]

theorem totalWords_append (a b : List Shape) : totalWords (a ++ b) = totalWords a + totalWords b := by
  induction a with
  | nil => simp [totalWords]
  | cons x xs ih => simp only [List.cons_append, totalWords, ih]; omega

theorem length_le_totalWords (ss : List Shape) : 4 * ss.length ≤ totalWords ss := by
  induction ss with
  | nil => simp [totalWords]
  | cons s ss ih => simp only [totalWords, List.length_cons]; omega

theorem count_of_total {ss : List Shape} (h : 50 + totalWords ss < 2147483648) : 1 + ss.length < 2147483648 := by
  have := length_le_totalWords ss
  omega

theorem size_le_totalWords (ss : List Shape) : ∀ s ∈ ss, s.sizeInBytes ≤ 2 * totalWords ss := by
  induction ss with
  | nil => simp
  | cons a as ih =>
    simp only [List.forall_mem_cons, totalWords, recordSizeWords]
    exact ⟨by omega, fun s hs => by have := ih s hs; omega⟩

theorem entriesFrom_append (off : Nat) (a b : List Shape) :
    entriesFrom off (a ++ b) = entriesFrom off a ++ entriesFrom (off + totalWords a) b := by
  induction a generalizing off with
  | nil => simp [entriesFrom, totalWords]
  | cons x xs ih =>
    simp only [List.cons_append, entriesFrom, ih, List.append_assoc, totalWords]
    congr 3
    omega

def fileTypeOf : List Shape → ShapeType
  | [] => .nullShape
  | s :: _ => s.writeType

def boxOf : List Shape → BBox
  | [] => ⟨zeroPt, zeroPt⟩
  | s :: ss => (s :: ss).foldl (growFromShape s.writeType) sentinelBox

def finalHeader (ss : List Shape) : Header :=
  { fileLength := 50 + totalWords ss, bbox := finalizeBox (boxOf ss), shapeType := fileTypeOf ss, version := 1000 }

def finalShxHeader (ss : List Shape) : Header := { finalHeader ss with fileLength := 50 + 4 * ss.length }

def shpFile (ss : List Shape) : Bytes := (finalHeader ss).enc ++ recordsFrom (fileTypeOf ss) 1 ss
def shxFile (ss : List Shape) : Bytes := (finalShxHeader ss).enc ++ entriesFrom 50 ss

def Homog : List Shape → Prop
  | [] => True
  | s :: ss => s.writeType ≠ .nullShape ∧ ∀ x ∈ ss, x.writeType = s.writeType

def accepts (ss : List Shape) (s : Shape) : Prop := ss = [] ∨ fileTypeOf ss = s.writeType
instance (ss : List Shape) (s : Shape) : Decidable (accepts ss s) := by unfold accepts; infer_instance

theorem fileTypeOf_append (a b : List Shape) (h : a ≠ []) : fileTypeOf (a ++ b) = fileTypeOf a := by
  cases a with
  | nil => exact absurd rfl h
  | cons x xs => rfl

theorem fileTypeOf_eq_null {ss : List Shape} (h : Homog ss) : fileTypeOf ss = .nullShape ↔ ss = [] := by
  cases ss with
  | nil => simp [fileTypeOf]
  | cons a as => simp [fileTypeOf, h.1]

theorem Homog.types {ss : List Shape} (h : Homog ss) : ∀ s ∈ ss, s.writeType = fileTypeOf ss := by
  cases ss with
  | nil => simp
  | cons a as => exact List.forall_mem_cons.2 ⟨rfl, h.2⟩

theorem Homog.ne_null {ss : List Shape} (h : Homog ss) {s : Shape} (hs : s ∈ ss) : s ≠ .null := by
  rintro rfl
  exact List.ne_nil_of_mem hs ((fileTypeOf_eq_null h).1 (h.types _ hs).symm)

theorem Homog.pair {a b : Shape} (h : a.writeType ≠ .nullShape) (hb : b.writeType = a.writeType) : Homog [a, b] :=
  ⟨h, List.forall_mem_singleton.2 hb⟩

theorem fileTypeOf_snoc {ss : List Shape} {s : Shape} (ha : accepts ss s) : fileTypeOf (ss ++ [s]) = s.writeType := by
  cases ss with
  | nil => rfl
  | cons a as => exact ha.resolve_left (List.cons_ne_nil a as)

theorem Homog.snoc {ss : List Shape} {s : Shape} (h : Homog ss) (hs : s.writeType ≠ .nullShape)
    (ha : accepts ss s) : Homog (ss ++ [s]) := by
  cases ss with
  | nil => exact ⟨hs, by simp⟩
  | cons a as =>
    have ht : a.writeType = s.writeType := fileTypeOf_snoc ha
    exact ⟨h.1, List.forall_mem_append.2 ⟨h.2, List.forall_mem_singleton.2 ht.symm⟩⟩

theorem boxOf_snoc {ss : List Shape} {s : Shape} (ha : accepts ss s) :
    boxOf (ss ++ [s]) = growFromShape s.writeType (if ss = [] then sentinelBox else boxOf ss) s := by
  cases ss with
  | nil => rfl
  | cons a as =>
    have ht : a.writeType = s.writeType := fileTypeOf_snoc ha
    simp [boxOf, List.foldl_append, ht]

theorem recordsFrom_accept {ss : List Shape} {s : Shape} (ha : accepts ss s) :
    recordsFrom (fileTypeOf (ss ++ [s])) 1 (ss ++ [s]) =
      recordsFrom (fileTypeOf ss) 1 ss ++ encRecord ((ss.length + 1 : Nat) : Int) s.writeType s := by
  rw [fileTypeOf_snoc ha, recordsFrom_snoc]
  rcases ha with rfl | ht
  · rfl
  · rw [ht]

theorem entriesFrom_accept (ss : List Shape) (s : Shape) :
    entriesFrom 50 (ss ++ [s]) = entriesFrom 50 ss ++ IndexEntry.enc ⟨50 + totalWords ss, recordSizeWords s⟩ := by
  rw [entriesFrom_append, entriesFrom, entriesFrom, List.append_nil, Int.natCast_add]
  rfl

/-- the writer after the shapes `ss` were accepted, on destinations that never failed.  `clean`: as
long as nothing was written since the last `finalize` the destinations hold the complete files. -/
structure WInv (w : World) (ss : List Shape) : Prop where
  homog : Homog ss
  recNum : w.st.recNum = ss.length + 1
  fileLength : w.st.header.fileLength = 50 + totalWords ss
  version : w.st.header.version = 1000
  shapeType : w.st.header.shapeType = fileTypeOf ss
  bbox : w.st.header.bbox = boxOf ss
  shp : ∃ hb : Bytes, (hb.length = 100 ∨ (hb = [] ∧ ss = [])) ∧
        w.shp.data = hb ++ recordsFrom (fileTypeOf ss) 1 ss ∧ w.shp.pos = w.shp.data.length
  shx : if w.st.hasShx then
          ∃ hb : Bytes, (hb.length = 100 ∨ (hb = [] ∧ ss = [])) ∧
            w.shx.data = hb ++ entriesFrom 50 ss ∧ w.shx.pos = w.shx.data.length
        else w.shx = Dst.empty
  clean : w.st.dirty = false → w.shp.data = shpFile ss ∧ (w.st.hasShx = true → w.shx.data = shxFile ss)

/-- the state facts of `WInv` without any claim on positions or on the header region's content:
what holds of a writer whose last finalize failed somewhere -/
structure C12.WInvW (w : World) (ss : List Shape) : Prop where
  recNum : w.st.recNum = ss.length + 1
  fileLength : w.st.header.fileLength = 50 + totalWords ss
  version : w.st.header.version = 1000
  shapeType : w.st.header.shapeType = fileTypeOf ss
  bbox : w.st.header.bbox = boxOf ss
  shp : Mid (recordsFrom (fileTypeOf ss) 1 ss) w.shp
  shx : w.st.hasShx = true → Mid (entriesFrom 50 ss) w.shx

open C12 (WInvW)

/-- what the writer keeps in destination `d` behind the header once `ss` were accepted -/
def bodyOf : DestId → List Shape → Bytes
  | .shp, ss => recordsFrom (fileTypeOf ss) 1 ss
  | .shx, ss => entriesFrom 50 ss

theorem bodyOf_nil (d : DestId) {ss : List Shape} (h : ss = []) : bodyOf d ss = [] := by subst h; cases d <;> rfl

theorem WInv.intro {st : WState} {shp shx : Dst} {ss : List Shape} (homog : Homog ss)
    (recNum : st.recNum = ss.length + 1) (fileLength : st.header.fileLength = 50 + totalWords ss)
    (version : st.header.version = 1000) (shapeType : st.header.shapeType = fileTypeOf ss)
    (bbox : st.header.bbox = boxOf ss) (hshp : shp.Holds (ss = []) (recordsFrom (fileTypeOf ss) 1 ss))
    (hshx : st.hasShx = true → shx.Holds (ss = []) (entriesFrom 50 ss))
    (hshx0 : st.hasShx = false → shx = Dst.empty)
    (clean : st.dirty = false → shp.data = shpFile ss ∧ (st.hasShx = true → shx.data = shxFile ss)) :
    WInv ⟨st, shp, shx⟩ ss := by
  refine ⟨homog, recNum, fileLength, version, shapeType, bbox, hshp, ?_, clean⟩
  cases hx : st.hasShx
  · exact hshx0 hx
  · exact hshx hx

theorem WInv.init (hasShx : Bool) : WInv (World.init hasShx) [] :=
  WInv.intro trivial rfl rfl rfl rfl rfl (Dst.holds_empty rfl) (fun _ => Dst.holds_empty rfl) (fun _ => rfl)
    (fun h => nomatch h)

section
variable {w : World} {ss : List Shape} (h : WInv w ss)
include h

theorem WInv.holds (d : DestId) (hd : w.st.has d = true) : (w.dst d).Holds (ss = []) (bodyOf d ss) := by
  cases d
  · exact h.shp
  · exact (if_pos hd).mp h.shx

theorem WInv.shxEmpty (hx : w.st.hasShx = false) : w.shx = Dst.empty := by
  simpa [hx] using h.shx

theorem WInv.mid (d : DestId) (hd : w.st.has d = true) : Mid (bodyOf d ss) (w.dst d) :=
  (h.holds d hd).mid (bodyOf_nil d)

theorem WInv.toW : WInvW w ss :=
  ⟨h.recNum, h.fileLength, h.version, h.shapeType, h.bbox, h.mid .shp rfl, h.mid .shx⟩

theorem WInv.null_iff : w.st.header.shapeType = .nullShape ↔ ss = [] := by
  rw [h.shapeType, fileTypeOf_eq_null h.homog]

theorem WInv.accepts_iff (s : Shape) :
    accepts ss s ↔ w.st.header.shapeType = .nullShape ∨ w.st.header.shapeType = s.writeType := by
  rw [h.null_iff, h.shapeType]; rfl

theorem WInv.body_accept {s : Shape} (ha : accepts ss s) (d : DestId) :
    bodyOf d (ss ++ [s]) = bodyOf d ss ++ w.st.chunk s d := by
  cases d
  · rw [WState.chunk, h.recNum]; exact recordsFrom_accept ha
  · rw [WState.chunk, h.fileLength]; exact entriesFrom_accept ss s

theorem WInv.write_dst {s : Shape} (ha : accepts ss s) (d : DestId) (hd : w.st.has d = true) :
    ((w.dst d).applyAll (opsFor d (writePlan w.st s).ops)).Holds (ss ++ [s] = []) (bodyOf d (ss ++ [s])) := by
  rw [opsFor_writePlan, if_pos hd, h.body_accept ha]
  exact (h.holds d hd).writeOps h.null_iff (bodyOf_nil d) _ _ _ (Header.enc_length _)

end

theorem C12.WInvW.finalHeader_eq {w : World} {ss : List Shape} (h : WInvW w ss) : w.st.finalHeader .shp = finalHeader ss := by
  simp only [WState.finalHeader, finalHeader, ← h.fileLength, ← h.version, ← h.shapeType, ← h.bbox]

theorem C12.WInvW.finalShxHeader_eq {w : World} {ss : List Shape} (h : WInvW w ss) : w.st.finalHeader .shx = finalShxHeader ss := by
  simp only [WState.finalHeader, finalShxHeader, finalHeader, ← h.fileLength, ← h.version, ← h.shapeType, ← h.bbox,
    Const.headerSize, h.recNum, Header.mk.injEq, and_true]
  omega

/-- a dirty `finalize` on healthy destinations repairs any state a failed one can have left -/
theorem C12.WInvW.call_finalize {w : World} {ss : List Shape} (h : WInvW w ss) (hd : w.st.dirty = true) :
    w.call .finalize =
      ({ st := { w.st with dirty := false }, shp := ⟨shpFile ss, (shpFile ss).length⟩,
         shx := if w.st.hasShx then ⟨shxFile ss, (shxFile ss).length⟩ else w.shx }, .ok ()) := by
  rw [call_finalize_dirty w hd, h.shp.finalize _ (Header.enc_length _), h.finalHeader_eq]
  -- the `if` is decided before any `rfl`: comparing its branches first would unfold both headers
  cases hx : w.st.hasShx
  · simp only [Bool.false_eq_true, if_false]; rfl
  · simp only [if_true, (h.shx hx).finalize _ (Header.enc_length _), h.finalShxHeader_eq]; rfl

theorem C12.WInvW.finalize {w : World} {ss : List Shape} (h : WInvW w ss) (hh : Homog ss)
    (hd : w.st.dirty = true) (hnx : w.st.hasShx = false → w.shx = Dst.empty) : WInv (w.call .finalize).1 ss := by
  rw [h.call_finalize hd]
  refine WInv.intro hh h.recNum h.fileLength h.version h.shapeType h.bbox
    (Dst.holds_mk _ _ _ (Header.enc_length _)) (fun hx => ?_) (fun hx => ?_) (fun _ => ⟨rfl, fun hx => ?_⟩)
  · rw [if_pos hx]; exact Dst.holds_mk _ _ _ (Header.enc_length _)
  · rw [if_neg (by simpa using hx)]; exact hnx hx
  · rw [if_pos hx]

theorem WInv.finalize {w : World} {ss : List Shape} (h : WInv w ss) :
    (w.call .finalize).2 = .ok () ∧ WInv (w.call .finalize).1 ss ∧ (w.call .finalize).1.st.dirty = false ∧
    (w.call .finalize).1.st.hasShx = w.st.hasShx := by
  cases hd : w.st.dirty
  · rw [call_finalize_clean w hd]
    exact ⟨rfl, h, hd, rfl⟩
  · refine ⟨?_, h.toW.finalize h.homog hd h.shxEmpty, ?_, ?_⟩ <;> rw [call_finalize_dirty w hd]

theorem WInv.write {w : World} {ss : List Shape} (h : WInv w ss) (s : Shape)
    (hs : s.writeType ≠ .nullShape) (ht : ss = [] ∨ fileTypeOf ss = s.writeType) :
    (w.call (.writeShape s)).2 = .ok () ∧ WInv (w.call (.writeShape s)).1 (ss ++ [s]) ∧
    (w.call (.writeShape s)).1.st.hasShx = w.st.hasShx := by
  have ha : accepts ss s := ht
  rw [World.call_of_plan (plan_write_accepted ((h.accepts_iff s).1 ha))]
  refine ⟨rfl, WInv.intro (h.homog.snoc hs ha) ?_ ?_ h.version (fileTypeOf_snoc ha).symm ?_ (h.write_dst ha .shp rfl)
    (h.write_dst ha .shx) (fun (hx : w.st.hasShx = false) => ?_) (fun hc => nomatch hc), rfl⟩
  · simp [writePlan, postWrite, h.recNum]
  · simp only [writePlan, postWrite, h.fileLength, totalWords_append, totalWords]; omega
  · simp only [writePlan, postWrite, firstHeader, boxOf_snoc ha, h.null_iff, h.bbox]
  · rw [opsFor_writePlan, if_neg (by simp [WState.has, hx])]; exact h.shxEmpty hx

end Shp
