/- Record contents, framed records, headers and index files: the decoders invert the writer's encoders. -/
import Shp.Lemmas.Exact
import Shp.Lemmas.Writer
import Shp.Lemmas.Decoders
namespace Shp
open Dec

/-- MAIN (record content): the reader of a shape's own type, given the announced size, returns
the shape as normalised on read and consumes exactly the emitted bytes. -/
theorem readContentOf_encodeContent (o : Orient) (s : Shape) (hs : s.Sized) (r : Bytes) :
    readContentOf o s.writeType (s.sizeInBytes : Int) (s.encodeContent ++ r) = .ok (s.readBack o) r := by
  obtain ⟨hp, hb⟩ := s.sized_counts hs
  rw [← s.encodeContent_length, Shape.writeType_eq]
  cases s with
  | null => rfl
  | point d p =>
    rw [Shape.shapetype_point, readContentOf_pointType]
    exact readPointContent_enc d p r
  | multipoint d b pts =>
    have := readMultipointContent_enc d true b pts r hb
    rwa [BBox.readRawOpt_true, Pt.readBackOpt_true, ← encMultipoint_eq, ← readContentOf_multipointType o,
      ← Shape.shapetype_multipoint d b pts] at this
  | polyline d b parts =>
    rw [Shape.shapetype_polyline, readContentOf_polylineType, Shape.encodeContent, encMultiPart_eq,
      bind_of_ok (readPolylineContent_enc d true b parts r hb hp), BBox.readRawOpt_true, Pt.readBackOpt_true]
    rfl
  | polygon d b rings =>
    rw [Shape.shapetype_polygon, readContentOf_polygonType, Shape.encodeContent, encMultiPart_eq,
      bind_of_ok (readPolylineContent_enc d true b (rings.map Prod.snd) r hb hp), BBox.readRawOpt_true, Pt.readBackOpt_true]
    simp [Dec.pure, Shape.readBack, List.map_map, Function.comp]
  | multipatch b patches =>
    have := readMultipatchContent_enc true b patches r hb (by simpa [Shape.numParts, Shape.parts] using hp)
    rwa [BBox.readRawOpt_true, Pt.readBackOpt_true, ← encMultipatch_eq] at this

def Target.Accepts : Target → ShapeType → Prop
  | .generic, _ => True
  | .typed t', t => t' = t

theorem readTarget_code (o : Orient) {tg : Target} {t : ShapeType} (htg : tg.Accepts t) {rs : Int}
    (hrs : InI32 (rs - 4)) (bs : Bytes) :
    readTarget o tg rs (encI32LE t.code ++ bs) = readContentOf o t (rs - 4) bs := by
  have hsub : subTypeCode rs = Dec.pure (rs - 4) := if_pos hrs
  cases tg with
  | generic =>
    rw [readTarget, readShape_eq, bind_of_ok (readShapeType_enc t _), hsub]
    rfl
  | typed t' =>
    obtain rfl : t' = t := htg
    rw [readTarget, readShapeAs, bind_of_ok (readShapeType_enc t' _), hsub,
      bind_of_ok (d := Dec.pure (rs - 4)) rfl, if_pos rfl]

/-- framing: a record header declaring `W` words, a type code and any content bytes that the type's
reader accepts -/
theorem readOneShape_frame (o : Orient) (tg : Target) (num : Int) (t : ShapeType) (content rest : Bytes) (shape : Shape)
    (W : Nat) (hnum : InI32 num) (hW : 4 + content.length = 2 * W) (hsmall : W < 1073741824) (htg : tg.Accepts t)
    (hread : readContentOf o t (content.length : Int) (content ++ rest) = .ok shape rest) :
    readOneShape o tg (encI32BE num ++ (encI32BE (W : Int) ++ (encI32LE t.code ++ (content ++ rest)))) =
      .ok ((W : Int), shape) rest := by
  have hlen : 2 * (W : Int) - 4 = content.length := by omega
  unfold readOneShape
  rw [bind_of_ok (i32BE_enc num hnum _), bind_of_ok (i32BE_enc _ (by unfold InI32; omega) _),
    wordsToBytes_nonneg (Int.natCast_nonneg W)]
  simp only []
  rw [if_neg (by omega), bind_of_ok ((readTarget_code o htg (by unfold InI32; omega) _).trans (hlen ▸ hread))]
  rfl

theorem readOneShape_encRecord' (o : Orient) (tg : Target) {num : Int} {s : Shape} (r : Bytes)
    (hn : InI32 num) (hs : s.Sized) (htg : tg.Accepts s.writeType) :
    readOneShape o tg (encRecord num s.writeType s ++ r) = .ok ((recordSizeWords s : Int), s.readBack o) r := by
  have hsmall : s.sizeInBytes + 4 < 2147483648 := hs
  have := readOneShape_frame o tg num s.writeType s.encodeContent r (s.readBack o) (recordSizeWords s) hn
    (record_words s).symm (by unfold recordSizeWords; omega) htg
    (by rw [s.encodeContent_length]; exact readContentOf_encodeContent o s hs r)
  simpa only [encRecord, List.append_assoc] using this

/-- MAIN (framed record): one record written by `write_shape` is read back, by the generic
reader or by the reader of its own type, as the normalised shape; exactly its bytes are consumed. -/
theorem readOneShape_encRecord (o : Orient) (tg : Target) (num : Int) (s : Shape) (r : Bytes)
    (hn : InI32 num) (hs : s.Sized) (hnull : s ≠ .null) (htg : tg.Accepts s.writeType) :
    readOneShape o tg (encRecord num s.writeType s ++ r) = .ok ((recordSizeWords s : Int), s.readBack o) r :=
  readOneShape_encRecord' o tg r hn hs htg

theorem readHeader_enc (h : Header) (hfl : InI32 h.fileLength) (hv : InI32 h.version) (r : Bytes) :
    readHeader (h.enc ++ r) = .ok h r := by
  unfold readHeader Header.enc
  simp only [List.append_assoc]
  rw [bind_of_ok (i32BE_enc _ (by decide) _)]
  rw [if_neg (by simp)]
  rw [bind_of_ok (show take 20 (zeros 20 ++ _) = _ from take_append (zeros 20) _)]
  rw [bind_of_ok (i32BE_enc _ hfl _), bind_of_ok (i32LE_enc _ hv _), bind_of_ok (readShapeType_enc _ _)]
  simp only [bind_f64_enc]
  rfl

/-- the index entries `write_shape` emits for the shapes `ss`, first record at word `off` -/
def indexEntriesFrom (off : Nat) : List Shape → List IndexEntry
  | [] => []
  | s :: ss => ⟨off, recordSizeWords s⟩ :: indexEntriesFrom (off + recordSizeWords s + 4) ss

theorem entriesFrom_eq (off : Nat) (ss : List Shape) :
    entriesFrom off ss = (indexEntriesFrom off ss).flatMap IndexEntry.enc := by
  induction ss generalizing off with
  | nil => rfl
  | cons s ss ih => simp [entriesFrom, indexEntriesFrom, ih]

@[simp] theorem indexEntriesFrom_length (off : Nat) (ss : List Shape) : (indexEntriesFrom off ss).length = ss.length := by
  induction ss generalizing off with
  | nil => rfl
  | cons s ss ih => simp [indexEntriesFrom, ih]

theorem indexEntriesFrom_getElem (off : Nat) (ss : List Shape) (i : Nat) (hi : i < ss.length) :
    (indexEntriesFrom off ss)[i]'(by simpa using hi) = ⟨off + totalWords (ss.take i), recordSizeWords ss[i]⟩ := by
  induction ss generalizing off i with
  | nil => cases hi
  | cons s ss ih =>
    cases i with
    | zero => simp [indexEntriesFrom, totalWords]
    | succ i =>
      simp only [indexEntriesFrom, List.getElem_cons_succ, List.take_succ_cons, totalWords]
      rw [ih _ i (Nat.lt_of_succ_lt_succ hi)]
      congr 1
      push_cast
      omega

theorem indexEntriesFrom_inI32 (off : Nat) (ss : List Shape) (hb : off + totalWords ss < 2147483648) :
    ∀ e ∈ indexEntriesFrom off ss, InI32 e.offset ∧ InI32 e.recordSize := by
  induction ss generalizing off with
  | nil => simp [indexEntriesFrom]
  | cons s ss ih =>
    simp only [totalWords] at hb
    intro e he
    simp only [indexEntriesFrom, List.mem_cons] at he
    rcases he with rfl | he
    · unfold InI32; simp only; omega
    · exact ih _ (by omega) e he

theorem readIndexEntry_enc (e : IndexEntry) (h : InI32 e.offset ∧ InI32 e.recordSize) (r : Bytes) :
    readIndexEntry (e.enc ++ r) = .ok e r := by
  unfold readIndexEntry IndexEntry.enc
  rw [List.append_assoc, bind_of_ok (i32BE_enc _ h.1 _), bind_of_ok (i32BE_enc _ h.2 _)]
  rfl

/-- `50 + 4 n` words: the header's own 100 bytes and `n` entries of 8 -/
theorem readIndexFile_enc (h : Header) (n : Nat) (hfl : h.fileLength = 50 + 4 * (n : Int)) (hn : 50 + 4 * n < 2147483648)
    (hv : InI32 h.version) (r : Bytes) : readIndexFile (h.enc ++ r) = repeatN n readIndexEntry r := by
  unfold readIndexFile
  rw [bind_of_ok (readHeader_enc h (by unfold InI32; omega) hv _), hfl, wordsToBytes_nonneg (by omega)]
  have hcount : ((if 2 * (50 + 4 * (n : Int)) < (Const.headerSize : Int) then 0
      else 2 * (50 + 4 * (n : Int)) - Const.headerSize) / (Const.indexRecordSize : Int)).toNat = n := by
    simp only [Const.headerSize, Const.indexRecordSize]
    omega
  simp only [hcount]

theorem readIndexFile_shxFile (ss : List Shape) (hb : 50 + totalWords ss < 2147483648) :
    readIndexFile (shxFile ss) = .ok (indexEntriesFrom 50 ss) [] := by
  have hlen4 := length_le_totalWords ss
  rw [shxFile, readIndexFile_enc _ ss.length rfl (by omega) (by unfold InI32; simp [finalShxHeader, finalHeader]),
    entriesFrom_eq]
  have := repeatN_exact readIndexEntry IndexEntry.enc (indexEntriesFrom 50 ss)
    (fun e he r => readIndexEntry_enc e (indexEntriesFrom_inI32 50 ss hb e he) r) []
  rwa [indexEntriesFrom_length, List.append_nil] at this

end Shp
