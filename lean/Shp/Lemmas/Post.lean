/- The three `bind` lemmas every decoder proof rewrites with, post-conditions and absence of panics. -/
import Shp.Prim.Dec
namespace Shp
namespace Dec
variable {α β : Type}

theorem bind_ok {d : Dec α} {f : α → Dec β} {bs : Bytes} {b : β} {rest : Bytes}
    (h : Dec.bind d f bs = .ok b rest) : ∃ a r, d bs = .ok a r ∧ f a r = .ok b rest := by
  unfold Dec.bind at h
  cases hd : d bs with
  | ok a r => rw [hd] at h; exact ⟨a, r, rfl, h⟩
  | err e => rw [hd] at h; cases h
  | panic s => rw [hd] at h; cases h

theorem bind_of_ok {d : Dec α} {f : α → Dec β} {bs : Bytes} {a : α} {r : Bytes}
    (h : d bs = .ok a r) : Dec.bind d f bs = f a r := by
  unfold Dec.bind; rw [h]

theorem bind_of_err {d : Dec α} {f : α → Dec β} {bs : Bytes} {e : Err}
    (h : d bs = .err e) : Dec.bind d f bs = .err e := by
  unfold Dec.bind; rw [h]

def Post (d : Dec α) (P : α → Prop) : Prop := ∀ bs a rest, d bs = .ok a rest → P a

theorem Post.pure {a : α} {P : α → Prop} (h : P a) : Post (Dec.pure a) P :=
  fun _ _ _ he => by cases he; exact h

theorem Post.fail {e : Err} {P : α → Prop} : Post (Dec.fail e : Dec α) P := fun _ _ _ he => by cases he

theorem Post.panic {s : String} {P : α → Prop} : Post (Dec.panic s : Dec α) P := fun _ _ _ he => by cases he

theorem Post.bind' {d : Dec α} {f : α → Dec β} {Q : α → Prop} {P : β → Prop}
    (hd : Post d Q) (hf : ∀ a, Q a → Post (f a) P) : Post (Dec.bind d f) P := by
  intro bs b rest he
  obtain ⟨a, r, h1, h2⟩ := bind_ok he
  exact hf a (hd bs a r h1) r b rest h2

theorem Post.bind {d : Dec α} {f : α → Dec β} {P : β → Prop} (hf : ∀ a, Post (f a) P) :
    Post (Dec.bind d f) P := Post.bind' (Q := fun _ => True) (fun _ _ _ _ => trivial) fun a _ => hf a

theorem Post.ite {c : Prop} [Decidable c] {d1 d2 : Dec α} {P : α → Prop}
    (h1 : Post d1 P) (h2 : Post d2 P) : Post (if c then d1 else d2) P :=
  ite_of (P := (Post · P)) (fun _ => h1) fun _ => h2

theorem Post.mono {d : Dec α} {P Q : α → Prop} (h : Post d P) (hpq : ∀ a, P a → Q a) : Post d Q :=
  fun bs a rest he => hpq a (h bs a rest he)

def NoPanic (d : Dec α) : Prop := ∀ bs, (d bs).isPanic = false

theorem NoPanic.ok_or_err {d : Dec α} (h : NoPanic d) (bs : Bytes) :
    (∃ a r, d bs = .ok a r) ∨ ∃ e, d bs = .err e := by
  have hp := h bs
  cases hr : d bs with
  | ok a r => exact .inl ⟨a, r, rfl⟩
  | err e => exact .inr ⟨e, rfl⟩
  | panic m => rw [hr] at hp; cases hp

theorem NoPanic.pure (a : α) : NoPanic (Dec.pure a) := fun _ => rfl
theorem NoPanic.fail (e : Err) : NoPanic (Dec.fail e : Dec α) := fun _ => rfl

theorem NoPanic.bind {d : Dec α} {f : α → Dec β}
    (hd : NoPanic d) (hf : ∀ a, NoPanic (f a)) : NoPanic (Dec.bind d f) := by
  intro bs
  unfold Dec.bind
  cases hdb : d bs with
  | ok a r => exact hf a r
  | err e => rfl
  | panic s => have := hd bs; rw [hdb] at this; exact this

theorem NoPanic.repeatN (n : Nat) {d : Dec α} (hd : NoPanic d) : NoPanic (repeatN n d) :=
  repeatN_closed (P := @NoPanic) NoPanic.pure NoPanic.bind n hd

theorem Post.i32LE : Post i32LE InI32 := by
  intro bs a rest h
  unfold Dec.i32LE Dec.u32LE at h
  split at h <;> cases h
  exact toI32_inI32 _ (decU32LE_lt _ _ _ _)

theorem Post.i32BE : Post i32BE InI32 := by
  intro bs a rest h
  unfold Dec.i32BE Dec.u32BE at h
  split at h <;> cases h
  exact toI32_inI32 _ (decU32LE_lt _ _ _ _)

end Dec
end Shp
