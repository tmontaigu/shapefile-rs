/-
Decoder side of C02: the strict whitepaper decoder inverts the whitepaper encoder, here on the
pieces of a record.  `InI32`, `Ok64`, `V.Ok`: what "strict" asks of a number and of a vertex.
-/
import Shp.Lemmas.SpecPrim
namespace Shp.Spec

theorem rdU32LE_enc (n : Nat) (h : n < 4294967296) (r : Bytes) : rdU32LE (wrU32LE n ++ r) = some (n, r) := by
  have : rdU32LE (leBytes 4 n ++ r) = some (leVal (leBytes 4 n), r) := by simp [leBytes, rdU32LE, leVal]
  rw [wrU32LE_eq, encU32LE_eq, this, leVal_leBytes]
  exact congrArg (fun x => some (x, r)) (Nat.mod_eq_of_lt h)

/-- the big-endian pair reads the reversed bytes in reverse -/
theorem rdU32BE_enc (n : Nat) (h : n < 4294967296) (r : Bytes) : rdU32BE (wrU32BE n ++ r) = some (n, r) :=
  rdU32LE_enc n h r

/-- this codec's own copy of `Shp.InI32`: `Rec.Strict` mentions nothing of the model -/
def InI32 (i : Int) : Prop := -2147483648 ≤ i ∧ i < 2147483648

theorem inI32_iff (i : Int) : InI32 i ↔ Shp.InI32 i := Iff.rfl

theorem InI32.of_nat {n : Nat} (h : n < 2147483648) : InI32 (n : Int) := (inI32_iff _).mpr (inI32_nat h)

theorem asI32_eq (n : Nat) : asI32 n = toI32 n := by
  unfold asI32 toI32; split <;> split <;> omega

theorem asI32_ofInt32 (i : Int) (h : InI32 i) : asI32 (ofInt32 i) = i := by
  rw [asI32_eq, ofInt32_eq]
  exact toI32_ofI32 ((inI32_iff i).mp h)

theorem ofInt32_lt (i : Int) : ofInt32 i < 4294967296 := by
  rw [ofInt32_eq]
  exact ofI32_lt i

theorem rdI32LE_enc (i : Int) (h : InI32 i) (r : Bytes) : rdI32LE (wrI32LE i ++ r) = some (i, r) := by
  unfold rdI32LE wrI32LE
  rw [rdU32LE_enc _ (ofInt32_lt i)]
  simp [asI32_ofInt32 i h]

theorem rdI32BE_enc (i : Int) (h : InI32 i) (r : Bytes) : rdI32BE (wrI32BE i ++ r) = some (i, r) :=
  rdI32LE_enc i h r

def Ok64 (b : Nat) : Prop := b < 18446744073709551616

theorem rdF64_enc (b : Nat) (h : Ok64 b) (r : Bytes) : rdF64 (wrF64 b ++ r) = some (b, r) := by
  unfold rdF64 wrF64
  rw [List.append_assoc, rdU32LE_enc _ (Nat.mod_lt b (by decide))]
  simp only [Option.bind_eq_bind, Option.bind_some]
  rw [rdU32LE_enc _ (Nat.div_lt_of_lt_mul h)]
  simp only [Option.bind_some, Option.pure_def, Nat.mod_add_div]

theorem rdMany_flatMap {α β : Type} (rd : Bytes → Option (α × Bytes)) (wr : β → Bytes) (g : β → α) (l : List β)
    (h : ∀ b ∈ l, ∀ r, rd (wr b ++ r) = some (g b, r)) (r : Bytes) :
    rdMany rd l.length (l.flatMap wr ++ r) = some (l.map g, r) := by
  induction l with
  | nil => rfl
  | cons a as ih =>
    simp only [List.length_cons, rdMany, List.flatMap_cons, List.append_assoc]
    rw [h a List.mem_cons_self]
    simp only [Option.bind_eq_bind, Option.bind_some]
    rw [ih (fun x hx => h x (List.mem_cons_of_mem _ hx))]
    rfl

theorem rdMany_box (box : List Nat) (n : Nat) (hl : box.length = n) (h : ∀ b ∈ box, Ok64 b) (r : Bytes) :
    rdMany rdF64 n (box.flatMap wrF64 ++ r) = some (box, r) := by
  subst hl
  exact (rdMany_flatMap rdF64 wrF64 id box (fun a ha r => rdF64_enc a (h a ha) r) r).trans (by rw [List.map_id])

theorem rdMany_ints (l : List Nat) (h : ∀ a ∈ l, a < 2147483648) (r : Bytes) :
    rdMany rdI32LE l.length (l.flatMap (fun (o : Nat) => wrI32LE (o : Int)) ++ r) = some (l.map Int.ofNat, r) :=
  rdMany_flatMap rdI32LE _ Int.ofNat l (fun n hn r => rdI32LE_enc _ (InI32.of_nat (h n hn)) r) r

theorem map_toNat_ofNat (l : List Nat) : (l.map Int.ofNat).map Int.toNat = l := by
  simp [Function.comp_def]

theorem natCast_not_neg (n : Nat) : ¬ ((n : Int) < 0) := by omega

theorem any_neg_ofNat (l : List Nat) : (l.map Int.ofNat).any (· < 0) = false := by
  simp

theorem any_bad_kind (l : List Nat) (h : ∀ k ∈ l, k ≤ 5) :
    (l.map Int.ofNat).any (fun k => decide (k < 0 ∨ k > 5)) = false := by
  simp only [List.any_map, List.any_eq_false, Function.comp_apply, decide_eq_true_eq, Int.ofNat_eq_natCast]
  intro k hk
  have := h k hk
  omega

theorem total_cons (p : List V) (ps : List (List V)) : total (p :: ps) = p.length + total ps := by
  simp [total]

theorem splitParts_offsets (s : Nat) (parts : List (List V)) :
    splitParts (offsetsOf s parts) (s + total parts) parts.flatten = some parts := by
  induction parts generalizing s with
  | nil => rfl
  | cons p ps ih =>
    cases ps with
    | nil => simp [offsetsOf, splitParts, total]
    | cons q rest =>
      have := ih (s + p.length)
      rw [total_cons, ← Nat.add_assoc]
      simp only [offsetsOf, List.flatten_cons] at this ⊢
      simp only [splitParts, if_pos (Nat.le_add_right s p.length), Nat.add_sub_cancel_left, List.drop_left, List.take_left,
        this, Option.map_some]

theorem offsetsOf_length (s : Nat) (parts : List (List V)) : (offsetsOf s parts).length = parts.length := by
  induction parts generalizing s with
  | nil => rfl
  | cons p ps ih => simp [offsetsOf, ih]

theorem offsetsOf_le (s : Nat) (parts : List (List V)) : ∀ o ∈ offsetsOf s parts, o ≤ s + total parts := by
  induction parts generalizing s with
  | nil => simp [offsetsOf]
  | cons p ps ih =>
    intro o ho
    simp only [offsetsOf, List.mem_cons] at ho
    rw [total_cons]
    rcases ho with rfl | ho
    · omega
    · have := ih _ o ho; omega

theorem offsetsOf_head (parts : List (List V)) : ((offsetsOf 0 parts).head?).any (· ≠ 0) = false := by
  cases parts <;> simp [offsetsOf]

theorem offsetsOf_map (f : V → V) (s : Nat) (parts : List (List V)) :
    offsetsOf s (parts.map (List.map f)) = offsetsOf s parts := by
  induction parts generalizing s with
  | nil => rfl
  | cons p ps ih => simp [offsetsOf, ih]

theorem total_map (f : V → V) (parts : List (List V)) : total (parts.map (List.map f)) = total parts :=
  congrArg List.sum (map_length_map f parts)

theorem splitParts_map (f : V → V) (parts : List (List V)) :
    splitParts (offsetsOf 0 parts) (total parts) (parts.flatten.map f) = some (parts.map (List.map f)) := by
  have := splitParts_offsets 0 (parts.map (List.map f))
  rw [offsetsOf_map, total_map, Nat.zero_add] at this
  rw [← this]
  congr 1
  simp [List.map_flatten]

def V.Ok (v : V) : Prop := Ok64 v.x ∧ Ok64 v.y ∧ Ok64 v.z ∧ Ok64 v.m
def V.canon (hasZ hasM : Bool) (v : V) : V :=
  { x := v.x, y := v.y, z := if hasZ then v.z else 0, m := if hasM then v.m else 0 }

theorem zipZM_canon (hasZ hasM : Bool) (vs : List V) :
    zipZM (vs.map (V.canon false false)) (if hasZ then vs.map (·.z) else []) (if hasM then vs.map (·.m) else []) =
      vs.map (V.canon hasZ hasM) := by
  unfold zipZM
  apply List.ext_getElem
  · simp
  · intro i h1 h2
    have hi : i < vs.length := by simpa using h2
    simp only [List.getElem_map, List.getElem_zipIdx, Nat.zero_add, V.canon]
    cases hasZ <;> cases hasM <;> simp [List.getD_eq_getElem?_getD, hi]

/-- the (x, y) pair reader, an anonymous `do` block inside `decVerts`; `decVerts_enc` names it by `change` -/
def rdXY : Bytes → Option (V × Bytes) := fun b =>
  (rdF64 b).bind fun x => (rdF64 x.2).bind fun y => some (({ x := x.1, y := y.1 } : V), y.2)

theorem rdMany_xy (vs : List V) (h : ∀ v ∈ vs, v.Ok) (r : Bytes) :
    rdMany rdXY vs.length (vs.flatMap (fun v => wrF64 v.x ++ wrF64 v.y) ++ r) = some (vs.map (V.canon false false), r) :=
  rdMany_flatMap rdXY _ (V.canon false false) vs (fun v hv r => by
    simp only [rdXY, List.append_assoc, rdF64_enc _ (h v hv).1, rdF64_enc _ (h v hv).2.1, Option.bind_some]; rfl) r

theorem rdMany_col (f : V → Nat) (vs : List V) (h : ∀ v ∈ vs, Ok64 (f v)) (r : Bytes) :
    rdMany rdF64 vs.length (vs.flatMap (fun v => wrF64 (f v)) ++ r) = some (vs.map f, r) :=
  rdMany_flatMap rdF64 _ f vs (fun v hv r => rdF64_enc _ (h v hv) r) r

/-- `decVerts` rejects an absent M block (hence `hmp`), so the flag it returns is `hasM` -/
theorem decVerts_enc (hasZ hasM : Bool) (hzm : hasZ = true → hasM = true) (r : Rec)
    (hv : ∀ v ∈ r.parts.flatten, v.Ok)
    (hz : Ok64 r.zRange.1 ∧ Ok64 r.zRange.2) (hm : Ok64 r.mRange.1 ∧ Ok64 r.mRange.2)
    (hmp : hasM = true → r.mPresent = true) :
    decVerts hasZ hasM (total r.parts) (encVerts hasZ hasM r.mPresent r) =
      some ((r.parts.flatten).map (V.canon hasZ hasM), (if hasZ then r.zRange else (0, 0)),
        (if hasM then r.mRange else (0, 0)), hasM) := by
  have hzs : ∀ v ∈ r.parts.flatten, Ok64 v.z := fun v h => (hv v h).2.2.1
  have hms : ∀ v ∈ r.parts.flatten, Ok64 v.m := fun v h => (hv v h).2.2.2
  rw [total, ← List.length_flatten, ← zipZM_canon hasZ hasM]
  unfold decVerts encVerts
  simp only [Option.bind_eq_bind, Option.pure_def]
  generalize r.parts.flatten = vs at *
  change (rdMany rdXY vs.length _).bind _ = _
  have hxy0 := rdMany_xy vs hv []
  have hm0 := rdMany_col (·.m) vs hms []
  rw [List.append_nil] at hxy0 hm0
  have hne : ∀ (a b : Nat) (l : Bytes), (wrF64 a ++ (wrF64 b ++ l)).isEmpty = false := fun _ _ _ => rfl
  cases hasZ <;> cases hasM
  case true.false => exact absurd (hzm rfl) (by decide)
  all_goals
    simp only [if_true, Bool.false_eq_true, if_false, Bool.and_true, Bool.false_and, hmp, List.append_nil,
      List.append_assoc, hxy0, rdMany_xy vs hv, Option.bind_some, rdF64_enc _ hz.1, rdF64_enc _ hz.2, rdMany_col (·.z) vs hzs, hne,
      Bool.not_true, Bool.not_false, rdF64_enc _ hm.1, rdF64_enc _ hm.2, hm0, List.isEmpty_nil]

end Shp.Spec
