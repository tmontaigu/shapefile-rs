/- Lengths of the encoders' outputs, the layouts with an optional M block, and `size_in_bytes` of each kind of shape. -/
import Shp.Model.Norm
namespace Shp

theorem flatMap_length_const {α : Type} (f : α → Bytes) (k : Nat) (h : ∀ a, (f a).length = k) (l : List α) :
    (l.flatMap f).length = k * l.length := by
  induction l with
  | nil => rfl
  | cons a as ih => rw [List.flatMap_cons, List.length_append, h, ih, List.length_cons, Nat.mul_succ, Nat.add_comm]

@[simp] theorem encXY_length (ps : List Pt) : (encXY ps).length = 16 * ps.length :=
  flatMap_length_const _ 16 (by intro p; simp) ps
@[simp] theorem encZs_length (ps : List Pt) : (encZs ps).length = 8 * ps.length :=
  flatMap_length_const _ 8 (by intro p; simp) ps
@[simp] theorem encMs_length (ps : List Pt) : (encMs ps).length = 8 * ps.length :=
  flatMap_length_const _ 8 (by intro p; simp) ps
@[simp] theorem encBBoxXY_length (b : BBox) : (encBBoxXY b).length = 32 := by simp [encBBoxXY]
@[simp] theorem encZRange_length (b : BBox) : (encZRange b).length = 16 := by simp [encZRange]
@[simp] theorem encMRange_length (b : BBox) : (encMRange b).length = 16 := by simp [encMRange]
@[simp] theorem encI32s_length (l : List Int) : (encI32s l).length = 4 * l.length :=
  flatMap_length_const _ 4 (by intro p; simp) l

theorem flatMap_parts_length (f : List Pt → Bytes) (k : Nat) (h : ∀ ps, (f ps).length = k * ps.length)
    (parts : List (List Pt)) : (parts.flatMap f).length = k * totalPoints parts := by
  induction parts with
  | nil => simp [totalPoints]
  | cons p ps ih =>
    simp only [List.flatMap_cons, List.length_append, h, ih, totalPoints, List.map_cons, List.sum_cons,
      Nat.mul_add]

@[simp] theorem flatMap_encXY_length (parts : List (List Pt)) :
    (parts.flatMap encXY).length = 16 * totalPoints parts := flatMap_parts_length _ 16 (by simp) parts
@[simp] theorem flatMap_encZs_length (parts : List (List Pt)) :
    (parts.flatMap encZs).length = 8 * totalPoints parts := flatMap_parts_length _ 8 (by simp) parts
@[simp] theorem flatMap_encMs_length (parts : List (List Pt)) :
    (parts.flatMap encMs).length = 8 * totalPoints parts := flatMap_parts_length _ 8 (by simp) parts

@[simp] theorem offsetsFrom_length (s : Nat) (l : List Nat) : (offsetsFrom s l).length = l.length := by
  induction l generalizing s with
  | nil => rfl
  | cons a as ih => simp [offsetsFrom, ih]

@[simp] theorem partOffsets_length (parts : List (List Pt)) : (partOffsets parts).length = parts.length := by
  simp [partOffsets]

theorem totalPoints_cons (p : List Pt) (ps : List (List Pt)) : totalPoints (p :: ps) = p.length + totalPoints ps := by
  simp [totalPoints]

@[simp] theorem totalPoints_singleton (ps : List Pt) : totalPoints [ps] = ps.length := by
  simp [totalPoints]

/-- Z/M blocks with an optional M block: `mPresent = true` is the writer's layout, `false` one that
other producers may emit; so for the other `…Opt` encoders -/
def encZMopt (d : Dim) (mPresent : Bool) (b : BBox) (parts : List (List Pt)) : Bytes :=
  (if d.hasZ then encZRange b ++ parts.flatMap encZs else []) ++
  (if d.hasM && mPresent then encMRange b ++ parts.flatMap encMs else [])

theorem encZM_eq (d : Dim) (b : BBox) (parts : List (List Pt)) : encZM d b parts = encZMopt d true b parts := by
  unfold encZM encZMopt; simp

def encMultiPartOpt (d : Dim) (mPresent : Bool) (b : BBox) (parts : List (List Pt)) : Bytes :=
  encBBoxXY b ++ encI32LE parts.length ++ encI32LE (totalPoints parts) ++
  encI32s ((partOffsets parts).map Int.ofNat) ++ parts.flatMap encXY ++ encZMopt d mPresent b parts

theorem encMultiPart_eq (d : Dim) (b : BBox) (parts : List (List Pt)) :
    encMultiPart d b parts = encMultiPartOpt d true b parts := by
  unfold encMultiPart encMultiPartOpt; rw [encZM_eq]

def encMultipointOpt (d : Dim) (m : Bool) (b : BBox) (pts : List Pt) : Bytes :=
  encBBoxXY b ++ encI32LE pts.length ++ encXY pts ++ encZMopt d m b [pts]

theorem encMultipoint_eq (d : Dim) (b : BBox) (pts : List Pt) :
    encMultipoint d b pts = encMultipointOpt d true b pts := by
  unfold encMultipoint encMultipointOpt; rw [encZM_eq]

def encMultipatchOpt (m : Bool) (b : BBox) (patches : List (PatchKind × List Pt)) : Bytes :=
  encBBoxXY b ++ encI32LE patches.length ++ encI32LE (totalPoints (patches.map (·.2))) ++
  encI32s ((partOffsets (patches.map (·.2))).map Int.ofNat) ++ encI32s (patches.map (·.1.code)) ++
  (patches.map (·.2)).flatMap encXY ++ encZMopt .xyzm m b (patches.map (·.2))

theorem encMultipatch_eq (b : BBox) (patches : List (PatchKind × List Pt)) :
    encMultipatch b patches = encMultipatchOpt true b patches := by
  unfold encMultipatch encMultipatchOpt encZMopt
  simp [Dim.hasZ, Dim.hasM]

/-- size of the Z block and the optional M block of `T` points -/
def zmSize (d : Dim) (m : Bool) (T : Nat) : Nat :=
  (if d.hasZ then 16 + 8 * T else 0) + (if d.hasM && m then 16 + 8 * T else 0)

theorem encZMopt_length (d : Dim) (m : Bool) (b : BBox) (parts : List (List Pt)) :
    (encZMopt d m b parts).length = zmSize d m (totalPoints parts) := by
  simp only [zmSize, encZMopt, List.length_append, apply_ite List.length, encZRange_length, encMRange_length,
    flatMap_encZs_length, flatMap_encMs_length, List.length_nil]

theorem encMultiPartOpt_length (d : Dim) (m : Bool) (b : BBox) (parts : List (List Pt)) :
    (encMultiPartOpt d m b parts).length =
      40 + 4 * parts.length + 16 * totalPoints parts + zmSize d m (totalPoints parts) := by
  unfold encMultiPartOpt
  simp only [List.length_append, encBBoxXY_length, encI32LE_length, encI32s_length, List.length_map,
    partOffsets_length, flatMap_encXY_length, encZMopt_length]

theorem encMultipointOpt_length (d : Dim) (m : Bool) (b : BBox) (pts : List Pt) :
    (encMultipointOpt d m b pts).length = 36 + 16 * pts.length + zmSize d m pts.length := by
  unfold encMultipointOpt
  simp only [List.length_append, encBBoxXY_length, encI32LE_length, encXY_length, encZMopt_length,
    totalPoints_singleton]

theorem encMultipatchOpt_length (m : Bool) (b : BBox) (patches : List (PatchKind × List Pt)) :
    (encMultipatchOpt m b patches).length =
      40 + 8 * patches.length + 16 * totalPoints (patches.map (·.2)) + zmSize .xyzm m (totalPoints (patches.map (·.2))) := by
  unfold encMultipatchOpt
  simp only [List.length_append, encBBoxXY_length, encI32LE_length, encI32s_length, List.length_map,
    partOffsets_length, flatMap_encXY_length, encZMopt_length]
  omega

theorem encPoint_length (d : Dim) (p : Pt) :
    (encPoint d p).length = 16 + ((if d.hasZ then 8 else 0) + (if d.hasM then 8 else 0)) := by
  simp only [encPoint, List.length_append, apply_ite List.length, F64.enc_length, List.length_nil]
  omega

theorem Shape.shapetype_point (d : Dim) (p : Pt) : (Shape.point d p).shapetype = pointType d := by cases d <;> rfl
theorem Shape.shapetype_multipoint (d : Dim) (b : BBox) (pts : List Pt) :
    (Shape.multipoint d b pts).shapetype = multipointType d := by cases d <;> rfl
theorem Shape.shapetype_polyline (d : Dim) (b : BBox) (parts : List (List Pt)) :
    (Shape.polyline d b parts).shapetype = polylineType d := by cases d <;> rfl
theorem Shape.shapetype_polygon (d : Dim) (b : BBox) (rings : List (Role × List Pt)) :
    (Shape.polygon d b rings).shapetype = polygonType d := by cases d <;> rfl

/-- a null shape has no concrete type: the `getD` default is `NullShape` -/
theorem Shape.writeType_eq (s : Shape) : s.writeType = s.shapetype := by
  unfold Shape.writeType Shape.shapetype
  cases s.variant <;> rfl

theorem Shape.writeType_ne_null (s : Shape) (h : s ≠ .null) : s.writeType ≠ .nullShape := by
  rw [Shape.writeType_eq]
  cases s with
  | null => exact absurd rfl h
  | point d p => cases d <;> nofun
  | multipoint d b p => cases d <;> nofun
  | polyline d b p => cases d <;> nofun
  | polygon d b p => cases d <;> nofun
  | multipatch b p => nofun

theorem Shape.sizeInBytes_point (d : Dim) (p : Pt) :
    (Shape.point d p).sizeInBytes = 16 + ((if d.hasZ then 8 else 0) + (if d.hasM then 8 else 0)) := by
  cases d <;> rfl

theorem Shape.sizeInBytes_multipoint (d : Dim) (b : BBox) (pts : List Pt) :
    (Shape.multipoint d b pts).sizeInBytes = 36 + 16 * pts.length + zmSize d true pts.length := by
  have h : (Shape.multipoint d b pts).numPoints = pts.length := by simp [Shape.numPoints, Shape.parts]
  cases d <;> simp only [Shape.sizeInBytes, Shape.shapetype, Shape.variant, Variant.shapetype, sizeInBytesTerm, h,
    zmSize, Dim.hasZ, Dim.hasM, Bool.and_true, if_true, Bool.false_eq_true, if_false] <;> omega

theorem Shape.sizeInBytes_multiPart (d : Dim) (s : Shape) (hs : s.shapetype = polylineType d ∨ s.shapetype = polygonType d) :
    s.sizeInBytes = 40 + 4 * s.parts.length + 16 * totalPoints s.parts + zmSize d true (totalPoints s.parts) := by
  have h : s.sizeInBytes = (sizeInBytesTerm s.shapetype).c0 + (sizeInBytesTerm s.shapetype).cParts * s.parts.length +
      (sizeInBytesTerm s.shapetype).cPoints * totalPoints s.parts := rfl
  have ht : sizeInBytesTerm s.shapetype = sizeInBytesTerm (polylineType d) := by
    rcases hs with hs | hs <;> rw [hs] <;> cases d <;> rfl
  rw [h, ht]
  cases d <;>
    simp only [polylineType, sizeInBytesTerm, zmSize, Dim.hasZ, Dim.hasM, Bool.and_true, if_true, Bool.false_eq_true,
      if_false] <;> omega

theorem Shape.sizeInBytes_multipatch (b : BBox) (patches : List (PatchKind × List Pt)) :
    (Shape.multipatch b patches).sizeInBytes =
      40 + 8 * patches.length + 16 * totalPoints (patches.map (·.2)) + zmSize .xyzm true (totalPoints (patches.map (·.2))) := by
  have h : (Shape.multipatch b patches).sizeInBytes = 72 + 8 * (patches.map (·.2)).length + 32 * totalPoints (patches.map (·.2)) := rfl
  have hz : ∀ T, zmSize .xyzm true T = 16 + 8 * T + (16 + 8 * T) := fun _ => rfl
  rw [h, hz, List.length_map]; omega

theorem Shape.size_ge (s : Shape) : 4 * s.parts.length + 16 * totalPoints s.parts ≤ s.sizeInBytes + 4 := by
  cases s with
  | null => exact Nat.zero_le _
  | point d p =>
    rw [Shape.sizeInBytes_point]
    simp [Shape.parts]
  | multipoint d b pts =>
    rw [Shape.sizeInBytes_multipoint]
    simp only [Shape.parts, List.length_singleton, totalPoints_singleton]
    omega
  | polyline d b parts =>
    rw [Shape.sizeInBytes_multiPart d _ (Or.inl (Shape.shapetype_polyline d b parts))]
    omega
  | polygon d b rings =>
    rw [Shape.sizeInBytes_multiPart d _ (Or.inr (Shape.shapetype_polygon d b rings))]
    omega
  | multipatch b patches =>
    rw [Shape.sizeInBytes_multipatch]
    simp only [Shape.parts, List.length_map]
    omega

theorem Shape.sized_counts (s : Shape) (hs : s.Sized) : s.numParts < 2147483648 ∧ s.numPoints < 2147483648 := by
  have := s.size_ge
  unfold Shape.Sized at hs
  show s.parts.length < 2147483648 ∧ totalPoints s.parts < 2147483648
  omega

theorem sizeInBytesTerm_even (t : ShapeType) :
    2 ∣ (sizeInBytesTerm t).c0 ∧ 2 ∣ (sizeInBytesTerm t).cParts ∧ 2 ∣ (sizeInBytesTerm t).cPoints := by
  cases t <;> decide

theorem Shape.encodeContent_length (s : Shape) : s.encodeContent.length = s.sizeInBytes := by
  cases s with
  | null => rfl
  | point d p => rw [Shape.sizeInBytes_point]; exact encPoint_length d p
  | multipoint d b pts =>
    rw [Shape.sizeInBytes_multipoint, Shape.encodeContent, encMultipoint_eq, encMultipointOpt_length]
  | polyline d b parts =>
    rw [Shape.sizeInBytes_multiPart d _ (.inl (Shape.shapetype_polyline d b parts)), Shape.encodeContent, encMultiPart_eq,
      encMultiPartOpt_length]
    rfl
  | polygon d b rings =>
    rw [Shape.sizeInBytes_multiPart d _ (.inr (Shape.shapetype_polygon d b rings)), Shape.encodeContent, encMultiPart_eq,
      encMultiPartOpt_length]
    rfl
  | multipatch b patches =>
    rw [Shape.sizeInBytes_multipatch, Shape.encodeContent, encMultipatch_eq, encMultipatchOpt_length]

theorem Shape.size_plus_code_even (s : Shape) : (s.sizeInBytes + 4) % 2 = 0 := by
  obtain ⟨h0, h1, h2⟩ := sizeInBytesTerm_even s.shapetype
  show ((sizeInBytesTerm s.shapetype).c0 + (sizeInBytesTerm s.shapetype).cParts * s.numParts +
    (sizeInBytesTerm s.shapetype).cPoints * s.numPoints + 4) % 2 = 0
  exact Nat.mod_eq_zero_of_dvd (Nat.dvd_add (Nat.dvd_add (Nat.dvd_add h0 (Nat.dvd_mul_right_of_dvd h1 _))
    (Nat.dvd_mul_right_of_dvd h2 _)) (by decide))

theorem record_words (s : Shape) : 2 * recordSizeWords s = 4 + s.encodeContent.length := by
  have := s.size_plus_code_even
  rw [s.encodeContent_length]
  unfold recordSizeWords
  omega

theorem encRecord_length (num : Int) (t : ShapeType) (s : Shape) :
    (encRecord num t s).length = 8 + 2 * recordSizeWords s := by
  simp [encRecord, record_words]
  omega

end Shp
