/-
Every content decoder inverts its encoder and consumes exactly what the encoder emitted, for all
shapes within the format's `i32` limits.
-/
import Shp.Lemmas.Codec
import Shp.Lemmas.Decoders
import Shp.Lemmas.Length
import Shp.Model.Norm
namespace Shp
open Dec

/-- a vertex after the `x, y` pass of a reader: the other coordinates still hold the defaults -/
def xyOnly (p : Pt) : Pt := { Pt.default with x := p.x, y := p.y }

theorem readXYPt_enc (p : Pt) (r : Bytes) : readXYPt (p.x.enc ++ p.y.enc ++ r) = .ok (xyOnly p) r := by
  unfold readXYPt
  rw [List.append_assoc, bind_of_ok (f64_enc p.x _), bind_of_ok (f64_enc p.y _)]
  rfl

theorem readCounted_nat {α : Type} (n : Nat) (d : Dec α) : readCounted (n : Int) d = repeatN n d := by
  rw [readCounted, if_neg (by omega), Int.toNat_natCast]

theorem readXYVec_enc (ps : List Pt) (r : Bytes) :
    readXYVec ps.length (encXY ps ++ r) = .ok (ps.map xyOnly) r := by
  unfold readXYVec
  rw [readCounted_nat]
  exact repeatN_exact_map readXYPt (fun p => p.x.enc ++ p.y.enc) xyOnly ps (fun a _ r => readXYPt_enc a r) r

theorem readBBoxXY_enc (b : BBox) (r : Bytes) :
    readBBoxXY (encBBoxXY b ++ r) = .ok ⟨xyOnly b.min, xyOnly b.max⟩ r := by
  unfold readBBoxXY encBBoxXY
  simp only [List.append_assoc]
  rw [bind_of_ok (f64_enc _ _), bind_of_ok (f64_enc _ _), bind_of_ok (f64_enc _ _), bind_of_ok (f64_enc _ _)]
  rfl

/-- an optional block (present iff `c`) of the coordinate `get` of a box and of every vertex, read into
the box `b'` and the vertices `hh p` built so far -/
theorem readBlock_enc (c : Bool) (set setB : Pt → F64 → Pt) (get : Pt → F64) (hh : Pt → Pt) (b' b : BBox)
    (parts : List (List Pt)) (r : Bytes) :
    (if c then readBlock set setB b' (parts.map (List.map hh)) else Dec.pure (b', parts.map (List.map hh)))
        ((if c then (get b.min).enc ++ (get b.max).enc ++ parts.flatMap (fun ps => ps.flatMap fun p => (get p).enc) else []) ++ r) =
      .ok (⟨if c then setB b'.min (get b.min) else b'.min, if c then setB b'.max (get b.max) else b'.max⟩,
           parts.map (List.map fun p => if c then set (hh p) (get p) else hh p)) r := by
  cases c
  · rfl
  · simp only [if_true]
    rw [List.append_assoc, List.append_assoc, readBlock, bind_of_ok (f64_enc _ _), bind_of_ok (f64_enc _ _),
      bind_of_ok (mapM'_exact_map _ (List.map hh) _ _ parts
        (fun ps r => mapM'_exact_map _ hh _ _ ps (fun p r => by rw [bind_of_ok (f64_enc _ _)]; rfl) r) r)]
    rfl

theorem readZM_enc (d : Dim) (mPresent : Bool) (b : BBox) (parts : List (List Pt)) (r : Bytes) :
    readZM d mPresent ⟨xyOnly b.min, xyOnly b.max⟩ (parts.map (List.map xyOnly)) (encZMopt d mPresent b parts ++ r) =
      .ok (b.readRawOpt d mPresent, parts.map (List.map (Pt.readBackOpt d mPresent))) r := by
  unfold readZM encZMopt encZRange encMRange encZs encMs
  rw [List.append_assoc, readZs_eq, readMs_eq, bind_of_ok (readBlock_enc d.hasZ _ _ Pt.z xyOnly _ b parts _)]
  dsimp only
  rw [readBlock_enc (d.hasM && mPresent) _ _ Pt.m _ _ b parts r]
  -- a vertex built in three steps (`x, y`, then `z`, then `m`) is the vertex as read back; so for a box corner
  unfold BBox.readRawOpt Pt.readRawOpt Pt.readBackOpt
  cases d.hasZ <;> cases (d.hasM && mPresent) <;> rfl

theorem readPartsXY_cons (se : Int × Int) (bounds : List (Int × Int)) :
    readPartsXY (se :: bounds) =
      Dec.bind (if se.2 - se.1 < 0 ∨ 2147483648 ≤ se.2 - se.1 then Dec.fail .io else readXYVec (se.2 - se.1)) fun ps =>
      Dec.bind (readPartsXY bounds) fun pss => Dec.pure (ps :: pss) := rfl

/-- the first part runs from its offset to the next one, or to the total when it is the last -/
theorem partBounds_offsets_cons (s : Nat) (p : List Pt) (ps : List (List Pt)) :
    partBounds ((s + totalPoints (p :: ps) : Nat) : Int) ((offsetsFrom s ((p :: ps).map List.length)).map Int.ofNat) =
      ((s : Int), ((s + p.length : Nat) : Int)) ::
        partBounds ((s + p.length + totalPoints ps : Nat) : Int)
          ((offsetsFrom (s + p.length) (ps.map List.length)).map Int.ofNat) := by
  cases ps <;> simp [offsetsFrom, partBounds, totalPoints, Nat.add_assoc]

theorem readPartsXY_offsets (parts : List (List Pt)) (s : Nat) (r : Bytes)
    (hb : s + totalPoints parts < 2147483648) :
    readPartsXY (partBounds ((s + totalPoints parts : Nat) : Int) ((offsetsFrom s (parts.map List.length)).map Int.ofNat))
        (parts.flatMap encXY ++ r) = .ok (parts.map (List.map xyOnly)) r := by
  induction parts generalizing s with
  | nil => rfl
  | cons p ps ih =>
    have hp : s + p.length + totalPoints ps < 2147483648 := by rw [totalPoints_cons] at hb; omega
    have hn : ((s + p.length : Nat) : Int) - (s : Int) = (p.length : Int) := by omega
    rw [partBounds_offsets_cons, readPartsXY_cons, List.flatMap_cons, List.append_assoc]
    dsimp only
    rw [hn, if_neg (by omega), bind_of_ok (readXYVec_enc p _), bind_of_ok (ih _ hp)]
    rfl

theorem partOffsets_inI32 (parts : List (List Pt)) (s : Nat) (hb : s + totalPoints parts < 2147483648) :
    ∀ o ∈ (offsetsFrom s (parts.map List.length)).map Int.ofNat, InI32 o := by
  induction parts generalizing s with
  | nil => simp [offsetsFrom]
  | cons p ps ih =>
    rw [totalPoints_cons] at hb
    intro o ho
    simp only [List.map_cons, offsetsFrom, List.mem_cons] at ho
    rcases ho with rfl | ho
    · exact inI32_nat (by omega)
    · exact ih (s + p.length) (by omega) o ho

theorem readI32s_enc (l : List Int) (h : ∀ i ∈ l, InI32 i) (r : Bytes) :
    readCounted (l.length : Int) i32LE (encI32s l ++ r) = .ok l r := by
  rw [readCounted_nat]
  exact repeatN_exact i32LE encI32LE l (fun a ha r => i32LE_enc a (h a ha) r) r

theorem readMultiPartHeader_enc (b : BBox) (parts : List (List Pt)) (r : Bytes)
    (hb : totalPoints parts < 2147483648) (hp : parts.length < 2147483648) :
    readMultiPartHeader (encBBoxXY b ++ (encI32LE parts.length ++ (encI32LE (totalPoints parts) ++
        (encI32s ((partOffsets parts).map Int.ofNat) ++ r)))) =
      .ok ⟨⟨xyOnly b.min, xyOnly b.max⟩, parts.length, totalPoints parts, (partOffsets parts).map Int.ofNat⟩ r := by
  have ho := readI32s_enc ((partOffsets parts).map Int.ofNat) (partOffsets_inI32 parts 0 (by omega)) r
  rw [List.length_map, partOffsets_length] at ho
  rw [readMultiPartHeader, bind_of_ok (readBBoxXY_enc b _), bind_of_ok (i32LE_enc _ (inI32_nat hp) _),
    bind_of_ok (i32LE_enc _ (inI32_nat hb) _), bind_of_ok ho]
  rfl

theorem readPartsXY_enc (parts : List (List Pt)) (r : Bytes) (hb : totalPoints parts < 2147483648) :
    readPartsXY (partBounds (totalPoints parts : Nat) ((partOffsets parts).map Int.ofNat)) (parts.flatMap encXY ++ r) =
      .ok (parts.map (List.map xyOnly)) r := by
  have := readPartsXY_offsets parts 0 r (by omega)
  rwa [Nat.zero_add] at this

/-- `hm`: only a PointZ (`d = .xyzm`) can lack its measure -/
theorem readPointContent_opt (d : Dim) (mp : Bool) (p : Pt) (r : Bytes) (hm : d = .xyzm ∨ mp = true) :
    readPointContent d
      ((p.x.enc ++ p.y.enc ++ (if d.hasZ then p.z.enc else []) ++ (if d.hasM && mp then p.m.enc else [])).length : Int)
      ((p.x.enc ++ p.y.enc ++ (if d.hasZ then p.z.enc else []) ++ (if d.hasM && mp then p.m.enc else [])) ++ r) =
      .ok (.point d (p.readRawOpt d mp)) r := by
  rcases hm with rfl | rfl
  · cases mp <;> simp [readPointContent, Dim.hasZ, Dim.hasM, bind_f64_enc, Dec.pure, Pt.readRawOpt, Pt.default]
  · cases d <;> simp [readPointContent, Dim.hasZ, Dim.hasM, bind_f64_enc, Dec.pure, Pt.readRawOpt, Pt.default]

theorem readPointContent_enc (d : Dim) (p : Pt) (r : Bytes) :
    readPointContent d ((encPoint d p).length : Int) (encPoint d p ++ r) = .ok (.point d (p.readRaw d)) r := by
  simpa only [Bool.and_true, Pt.readRawOpt, Pt.readRaw, encPoint] using readPointContent_opt d true p r (Or.inr rfl)

/-- a record of `A` bytes plus its optional blocks passes the check against the two accepted sizes, and
its M block is taken as present exactly when it is (`readZM` ignores the flag where the dimension has none) -/
theorem sizeGuard (d : Dim) (m : Bool) (A T : Nat) (rs : Int) (hrs : rs = ((A + zmSize d m T : Nat) : Int)) :
    ¬(rs ≠ ((A + zmSize d true T : Nat) : Int) ∧ rs ≠ ((A + zmSize d false T : Nat) : Int)) ∧
    readZM d (decide (rs = ((A + zmSize d true T : Nat) : Int))) = readZM d m := by
  have hflag : ∀ x, readZM d x = readZM d (d.hasM && x) := fun x => by unfold readZM; cases d.hasM <;> simp
  subst hrs
  refine ⟨?_, (hflag _).trans ((congrArg (readZM d) ?_).trans (hflag m).symm)⟩
  · cases m <;> simp
  · unfold zmSize
    cases d.hasM <;> cases m <;> simp <;> omega

theorem recordSizes_polyline (d : Dim) (P T : Nat) :
    recordSizes (polylineType d) P T =
      (((40 + 4 * P + 16 * T + zmSize d false T : Nat) : Int), ((40 + 4 * P + 16 * T + zmSize d true T : Nat) : Int)) := by
  cases d <;> simp [recordSizes, polylineType, sizeOfRecordTerm, SizeTerm.eval, zmSize, Dim.hasZ, Dim.hasM] <;> omega

theorem recordSizes_multipoint (d : Dim) (T : Nat) :
    recordSizes (multipointType d) 0 T =
      (((36 + 16 * T + zmSize d false T : Nat) : Int), ((36 + 16 * T + zmSize d true T : Nat) : Int)) := by
  cases d <;> simp [recordSizes, multipointType, sizeOfRecordTerm, SizeTerm.eval, zmSize, Dim.hasZ, Dim.hasM] <;> omega

theorem recordSizes_multipatch (P T : Nat) :
    recordSizes .multipatch P T =
      (((40 + 8 * P + 16 * T + zmSize .xyzm false T : Nat) : Int), ((40 + 8 * P + 16 * T + zmSize .xyzm true T : Nat) : Int)) := by
  simp [recordSizes, sizeOfRecordTerm, SizeTerm.eval, zmSize, Dim.hasZ, Dim.hasM]
  omega

theorem readPolylineContent_enc (d : Dim) (m : Bool) (b : BBox) (parts : List (List Pt)) (r : Bytes)
    (hb : totalPoints parts < 2147483648) (hp : parts.length < 2147483648) :
    readPolylineContent d ((encMultiPartOpt d m b parts).length : Int) (encMultiPartOpt d m b parts ++ r) =
      .ok (b.readRawOpt d m, parts.map (List.map (Pt.readBackOpt d m))) r := by
  unfold readPolylineContent
  rw [show encMultiPartOpt d m b parts ++ r = _ from by unfold encMultiPartOpt; simp only [List.append_assoc]; rfl,
    bind_of_ok (readMultiPartHeader_enc b parts _ hb hp)]
  obtain ⟨hg, hm⟩ := sizeGuard d m (40 + 4 * parts.length + 16 * totalPoints parts) (totalPoints parts)
    ((encMultiPartOpt d m b parts).length : Int) (by rw [encMultiPartOpt_length])
  simp only [recordSizes_polyline]
  rw [if_neg hg, bind_of_ok (readPartsXY_enc parts _ hb), hm]
  exact readZM_enc d m b parts r

theorem readMultipointContent_enc (d : Dim) (m : Bool) (b : BBox) (pts : List Pt) (r : Bytes)
    (hb : pts.length < 2147483648) :
    readMultipointContent d ((encMultipointOpt d m b pts).length : Int) (encMultipointOpt d m b pts ++ r) =
      .ok (.multipoint d (b.readRawOpt d m) (pts.map (Pt.readBackOpt d m))) r := by
  unfold readMultipointContent
  rw [show encMultipointOpt d m b pts ++ r = encBBoxXY b ++ (encI32LE pts.length ++ (encXY pts ++ (encZMopt d m b [pts] ++ r)))
      from by unfold encMultipointOpt; simp only [List.append_assoc],
    bind_of_ok (readBBoxXY_enc b _), bind_of_ok (i32LE_enc _ (inI32_nat hb) _)]
  obtain ⟨hg, hm⟩ := sizeGuard d m (36 + 16 * pts.length) pts.length
    ((encMultipointOpt d m b pts).length : Int) (by rw [encMultipointOpt_length])
  simp only [recordSizes_multipoint]
  have hzm := readZM_enc d m b [pts] r
  simp only [List.map_cons, List.map_nil] at hzm
  rw [if_neg hg, bind_of_ok (readXYVec_enc pts _), hm, bind_of_ok hzm]
  simp [Dec.pure]

theorem readPatchKinds_enc {α : Type} (l : List α) (k : α → PatchKind) (r : Bytes) :
    readCounted (l.length : Int) readPatchKind (encI32s (l.map fun a => (k a).code) ++ r) = .ok (l.map k) r := by
  rw [readCounted_nat, encI32s, List.flatMap_map]
  exact repeatN_exact_map readPatchKind _ k l (fun a _ r => readPatchKind_enc (k a) r) r

theorem readMultipatchContent_enc (m : Bool) (b : BBox) (patches : List (PatchKind × List Pt)) (r : Bytes)
    (hb : totalPoints (patches.map (·.2)) < 2147483648) (hp : patches.length < 2147483648) :
    readMultipatchContent ((encMultipatchOpt m b patches).length : Int) (encMultipatchOpt m b patches ++ r) =
      .ok (.multipatch (b.readRawOpt .xyzm m) (patches.map fun p => (p.1, p.2.map (Pt.readBackOpt .xyzm m)))) r := by
  unfold readMultipatchContent
  have hh := readMultiPartHeader_enc b (patches.map (·.2))
    (encI32s (patches.map (·.1.code)) ++ ((patches.map (·.2)).flatMap encXY ++ (encZMopt .xyzm m b (patches.map (·.2)) ++ r)))
    hb (by rwa [List.length_map])
  rw [List.length_map] at hh
  rw [show encMultipatchOpt m b patches ++ r = _ from by unfold encMultipatchOpt; simp only [List.append_assoc]; rfl,
    bind_of_ok hh]
  obtain ⟨hg, hm⟩ := sizeGuard .xyzm m (40 + 8 * patches.length + 16 * totalPoints (patches.map (·.2)))
    (totalPoints (patches.map (·.2))) ((encMultipatchOpt m b patches).length : Int) (by rw [encMultipatchOpt_length])
  simp only [recordSizes_multipatch]
  rw [if_neg hg, bind_of_ok (readPatchKinds_enc patches (·.1) _), bind_of_ok (readPartsXY_enc _ _ hb), hm,
    bind_of_ok (readZM_enc .xyzm m b _ r)]
  simp [Dec.pure, List.zip_map']

theorem Pt.readBackOpt_true (d : Dim) : Pt.readBackOpt d true = Pt.readBack d :=
  funext fun p => by simp [Pt.readBackOpt, Pt.readBack]
theorem BBox.readRawOpt_true (d : Dim) (b : BBox) : b.readRawOpt d true = b.readRaw d := by
  simp [BBox.readRawOpt, BBox.readRaw, Pt.readRawOpt, Pt.readRaw]

end Shp
