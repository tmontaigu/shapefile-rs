/-
A decoder run on a cut source.  A success depends on the bytes it consumed and on nothing behind them
(`Seq.ok`), so it recurs when the cut lies behind them; a strict prefix of them is the I/O error
(`Stable`).
-/
import Shp.Lemmas.Seq
namespace Shp
open Dec

namespace Dec
variable {α : Type}

theorem Stable.take_io {d : Dec α} (hs : Stable d) {b : Bytes} {a : α} (hex : ∀ r, d (b ++ r) = .ok a r)
    {c : Nat} (hc : c < b.length) : d (b.take c) = .err .io :=
  hs.append_io (ext := b.drop c) (rest := []) (by rw [List.take_append_drop]; simpa using hex [])
    (by rw [List.length_drop]; exact Nat.sub_pos_of_lt hc)

/-- a run from `p` to `q` of `data`, seen through `data` cut at `t` -/
theorem Seq.cut {d : Dec α} {n : Nat} (hd : Seq d n) {data : Bytes} {p q t : Nat} {a : α} {rest : Bytes}
    (h : d (data.drop p) = .ok a rest) (hq : q + rest.length = data.length) (hpq : p < q) (ht : t ≤ data.length) :
    if q ≤ t then ∃ r', d ((data.take t).drop p) = .ok a r' ∧ q + r'.length = t
    else d ((data.take t).drop p) = .err .io := by
  obtain ⟨used, hu, _, hex⟩ := hd.ok _ a rest h
  have hlen := congrArg List.length hu
  rw [List.length_drop, List.length_append] at hlen
  obtain rfl : q = p + used.length := by omega
  rw [List.drop_take, hu]
  split
  next hin =>
    obtain ⟨e, rfl⟩ := Nat.exists_eq_add_of_le hin
    rw [Nat.add_assoc, Nat.add_sub_cancel_left, List.take_length_add_append]
    exact ⟨_, hex _, by rw [List.length_take_of_le (by omega), Nat.add_assoc]⟩
  next hout =>
    have hc : t - p < used.length := by omega
    rw [List.take_append_of_le_length (Nat.le_of_lt hc)]
    exact hd.stable.take_io hex hc

end Dec
end Shp
