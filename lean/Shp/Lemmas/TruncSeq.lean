/-
Sequential reading (no index) of ANY file whose records lie back to back behind the header — a
spec-conformant file of C03, not only one this library wrote — cut at any length: the records wholly
inside the retained bytes, then the I/O error for the cut record, then the end.  The header declares
where the records end and the count is SOME `k`; `Stream` has the writer's own records under any
declared length, with the exact count.
-/
import Shp.Lemmas.ReaderSeq
namespace Shp

/-- reading `data.take t` without index, both cursors at `p` (a parameter, for the induction
over `SeqRecords`) -/
structure TSeq (o : Orient) (tg : Target) (data : Bytes) (t : Nat) (st : RState) (p : Nat) : Prop where
  data : st.data = data.take t
  noIndex : st.index = none
  pos : st.currentPos = some p
  src : st.srcPos = p
  flen : 0 ≤ st.header.fileLength

namespace TSeq
variable {o : Orient} {tg : Target} {data : Bytes} {t p : Nat} {st : RState}

theorem iterNext_record (h : TSeq o tg data t st p) (ht : t ≤ data.length)
    (hlt : p < (2 * st.header.fileLength).toNat) {w : Int} {s : Shape} {rest : Bytes}
    (hread : readOneShape o tg (data.drop p) = .ok (w, s) rest)
    (hcons : p + 8 + (2 * w).toNat + rest.length = data.length) :
    st.iterNext o tg =
      if p + 8 + (2 * w).toNat ≤ t then
        ({ st with srcPos := p + 8 + (2 * w).toNat, currentPos := some (p + 8 + (2 * w).toNat) }, .shape s)
      else ({ st with currentPos := none }, .err .io) := by
  obtain ⟨hdata, hi, hp, rfl, hfl⟩ := h
  have hcut := (readOneShape_seq o tg).cut hread hcons (by omega) ht
  rw [← hdata] at hcut
  rw [RState.iterNext_seq hi hp, RState.declaredEnd_nonneg hfl, if_neg (Nat.not_le_of_lt hlt)]
  by_cases hin : st.srcPos + 8 + (2 * w).toNat ≤ t
  · rw [if_pos hin] at hcut ⊢
    obtain ⟨r', hb, hr⟩ := hcut
    rw [RState.readHere_record hp hb (by rw [hdata, List.length_take_of_le ht]; exact hr)]
  · rw [if_neg hin] at hcut ⊢
    rw [RState.readHere_err hcut]

theorem advance (h : TSeq o tg data t st p) (q : Nat) :
    TSeq o tg data t { st with srcPos := q, currentPos := some q } q :=
  ⟨h.data, h.noIndex, rfl, rfl, h.flen⟩

theorem fuel_ge (h : TSeq o tg data t st p) (ht : t ≤ data.length) : t - p + 2 ≤ st.fuel := by
  have := st.fuel_ge_data
  rw [h.data, List.length_take_of_le ht] at this
  omega

end TSeq

/-- MAIN, record by record; a record is missing only if bytes are, so that `t = data.length` is the
uncut reading -/
theorem TSeq.iterAll {o : Orient} {tg : Target} {data : Bytes} {t : Nat} (ht : t ≤ data.length) {shapes : List Shape}
    {p : Nat} {st : RState} {fuel : Nat} (hrec : SeqRecords o tg data (2 * st.header.fileLength).toNat p shapes)
    (hst : TSeq o tg data t st p) (hf : t - p + 2 ≤ fuel) :
    ∃ k, k ≤ shapes.length ∧ (k < shapes.length → t < data.length) ∧
      (st.iterAll o tg fuel).2 = (shapes.take k).map ROut.shape ++ (if k < shapes.length then [ROut.err .io] else []) := by
  induction shapes generalizing p st fuel with
  | nil =>
    have hle : st.declaredEnd ≤ p := RState.declaredEnd_nonneg hst.flen ▸ hrec
    exact ⟨0, Nat.le_refl _, nofun, by rw [RState.iterAll_seq_done hst.noIndex hst.pos hle]; rfl⟩
  | cons s ss ih =>
    obtain ⟨hlt, w, rest, hread, hw, hcons, hrest⟩ := hrec
    obtain ⟨f, rfl⟩ : ∃ f, fuel = f + 1 := ⟨fuel - 1, by omega⟩
    have hnext := hst.iterNext_record ht hlt hread hcons
    by_cases hend : p + 8 + (2 * w).toNat ≤ t
    · rw [if_pos hend] at hnext
      obtain ⟨k, hk, hcut, hall⟩ := ih (fuel := f) (by exact hrest) (hst.advance (p + 8 + (2 * w).toNat)) (by omega)
      refine ⟨k + 1, Nat.succ_le_succ hk, fun h => hcut (Nat.lt_of_succ_lt_succ h), ?_⟩
      rw [RState.iterAll_succ_cons f hnext (by simp), hall]
      simp only [List.take_succ_cons, List.map_cons, List.cons_append, List.length_cons, Nat.add_lt_add_iff_right]
    · rw [if_neg hend] at hnext
      exact ⟨0, Nat.zero_le _, fun _ => by omega, by rw [RState.iterAll_seq_err hst.noIndex hnext]; rfl⟩

theorem truncated_sequential_any (o : Orient) (tg : Target) (data : Bytes) (t : Nat) (ht : t ≤ data.length) :
    ∀ (shapes : List Shape) (p : Nat) (st : RState) (fuel : Nat),
      SeqRecords o tg data (2 * st.header.fileLength).toNat p shapes → TSeq o tg data t st p → p ≤ t →
      t - p + 2 ≤ fuel →
      ∃ k, k ≤ shapes.length ∧
        (st.iterAll o tg fuel).2 = (shapes.take k).map ROut.shape ++ (if k < shapes.length then [ROut.err .io] else []) :=
  fun _ _ _ _ hrec hst _ hf => let ⟨k, hk, _, h⟩ := TSeq.iterAll ht hrec hst hf; ⟨k, hk, h⟩

end Shp
