/-
Every decoder of the model reads its source front to back without panic (`Seq`, whence `Stable`,
`Local`, `Consumes`, `NoPanic`): the facts behind C07, C11 and C13.  The count in a statement is what
a success consumed at least: the sum over the decoder's straight-line part.  `Seq` bounds it only from
below: the header's exact 100 bytes are `readHeader_eats`, by `Eats`.
-/
import Shp.Lemmas.Seq
import Shp.Model.Header
namespace Shp
open Dec

theorem wordsToBytes_nonneg {w : Int} (h : 0 ≤ w) : wordsToBytes w = some (2 * w) :=
  if_neg (by omega)

/-- what `read_zs` and `read_ms` share: a range, then one value for every vertex of every part -/
def readBlock (set setB : Pt → F64 → Pt) (b : BBox) (parts : List (List Pt)) : Dec (BBox × List (List Pt)) :=
  Dec.bind f64 fun lo => Dec.bind f64 fun hi =>
  Dec.bind (mapM' (mapM' fun p => Dec.bind f64 fun v => Dec.pure (set p v)) parts) fun parts' =>
  Dec.pure (⟨setB b.min lo, setB b.max hi⟩, parts')

theorem readZs_eq : readZs = readBlock (fun p z => { p with z := z }) fun p z => { p with z := z } := rfl
theorem readMs_eq : readMs = readBlock (fun p m => { p with m := m.maxNoData }) fun p m => { p with m := m } := rfl

/-- the dispatch table, read once: its one empty entry (the null type) gives the same `pure .null` -/
theorem readShape_eq (o : Orient) (rs : Int) :
    readShape o rs = Dec.bind readShapeType fun t => Dec.bind (subTypeCode rs) fun rs' => readContentOf o t rs' := by
  unfold readShape
  exact congrArg (Dec.bind readShapeType) (funext fun t => by cases t <;> rfl)

theorem readContentOf_pointType (o : Orient) (d : Dim) (rs : Int) :
    readContentOf o (pointType d) rs = readPointContent d rs := by cases d <;> rfl
theorem readContentOf_multipointType (o : Orient) (d : Dim) (rs : Int) :
    readContentOf o (multipointType d) rs = readMultipointContent d rs := by cases d <;> rfl
theorem readContentOf_polylineType (o : Orient) (d : Dim) (rs : Int) :
    readContentOf o (polylineType d) rs =
      Dec.bind (readPolylineContent d rs) fun r => Dec.pure (.polyline d r.1 r.2) := by cases d <;> rfl
theorem readContentOf_polygonType (o : Orient) (d : Dim) (rs : Int) :
    readContentOf o (polygonType d) rs =
      Dec.bind (readPolylineContent d rs) fun r => Dec.pure (.polygon d r.1 (r.2.map fun p => (roleOf o p, p))) := by
  cases d <;> rfl

theorem readXYPt_seq : Seq readXYPt 16 :=
  Seq.bind Seq.f64 fun _ => Seq.bind Seq.f64 fun _ => Seq.pure _

theorem readCounted_seq {α : Type} (n : Int) {d : Dec α} {k : Nat} (hd : Seq d k) : Seq (readCounted n d) 0 :=
  Seq.ite (Seq.fail _ _) (Seq.repeatN _ hd)

theorem readBBoxXY_seq : Seq readBBoxXY 32 :=
  Seq.bind Seq.f64 fun _ => Seq.bind Seq.f64 fun _ => Seq.bind Seq.f64 fun _ =>
  Seq.bind Seq.f64 fun _ => Seq.pure _

theorem readBlock_seq (set setB : Pt → F64 → Pt) (b : BBox) (parts : List (List Pt)) :
    Seq (readBlock set setB b parts) 16 :=
  Seq.bind Seq.f64 fun _ => Seq.bind Seq.f64 fun _ =>
  Seq.bind (Seq.mapM' (fun pts => Seq.mapM' (fun _ => Seq.bind Seq.f64 fun _ => Seq.pure _) pts) parts)
    fun _ => Seq.pure _

theorem readZM_seq (d : Dim) (m : Bool) (b : BBox) (parts : List (List Pt)) : Seq (readZM d m b parts) 0 := by
  unfold readZM
  rw [readZs_eq, readMs_eq]
  exact Seq.bind (Seq.ite ((readBlock_seq ..).mono (Nat.zero_le _)) (Seq.pure _)) fun _ =>
    Seq.ite ((readBlock_seq ..).mono (Nat.zero_le _)) (Seq.pure _)

theorem readPartsXY_seq (bounds : List (Int × Int)) : Seq (readPartsXY bounds) 0 :=
  Seq.mapM' (fun _ => Seq.ite (Seq.fail _ _) (readCounted_seq _ readXYPt_seq)) bounds

theorem readMultiPartHeader_seq : Seq readMultiPartHeader 40 :=
  Seq.bind readBBoxXY_seq fun _ => Seq.bind Seq.i32LE fun _ => Seq.bind Seq.i32LE fun _ =>
  Seq.bind (readCounted_seq _ Seq.i32LE) fun _ => Seq.pure _

theorem readPolylineContent_seq (d : Dim) (rs : Int) : Seq (readPolylineContent d rs) 40 :=
  Seq.bind readMultiPartHeader_seq fun _ =>
    Seq.ite (Seq.fail _ _) (Seq.bind (readPartsXY_seq _) fun _ => readZM_seq _ _ _ _)

theorem readPatchKind_seq : Seq readPatchKind 4 :=
  Seq.bind Seq.i32LE fun c => by
    cases PatchKind.ofCode c
    · exact Seq.fail _ _
    · exact Seq.pure _

theorem readMultipatchContent_seq (rs : Int) : Seq (readMultipatchContent rs) 40 :=
  Seq.bind readMultiPartHeader_seq fun _ =>
    Seq.ite (Seq.fail _ _) (Seq.bind (readCounted_seq _ readPatchKind_seq) fun _ =>
      Seq.bind (readPartsXY_seq _) fun _ => Seq.bind (readZM_seq _ _ _ _) fun _ => Seq.pure _)

theorem readMultipointContent_seq (d : Dim) (rs : Int) : Seq (readMultipointContent d rs) 36 :=
  Seq.bind readBBoxXY_seq fun _ => Seq.bind Seq.i32LE fun _ =>
    Seq.ite (Seq.fail _ _) (Seq.bind (readCounted_seq _ readXYPt_seq) fun _ =>
      Seq.bind (readZM_seq _ _ _ _) fun _ => Seq.pure _)

theorem readPointContent_seq (d : Dim) (rs : Int) : Seq (readPointContent d rs) 16 := by
  cases d <;> unfold readPointContent
  · exact Seq.ite (Seq.bind Seq.f64 fun _ => Seq.bind Seq.f64 fun _ => Seq.pure _) (Seq.fail _ _)
  · exact Seq.ite ((Seq.bind Seq.f64 fun _ => Seq.bind Seq.f64 fun _ => Seq.bind Seq.f64 fun _ =>
      Seq.pure _).mono (by omega)) (Seq.fail _ _)
  · exact Seq.ite ((Seq.bind Seq.f64 fun _ => Seq.bind Seq.f64 fun _ => Seq.bind Seq.f64 fun _ =>
      Seq.pure _).mono (by omega))
      (Seq.ite ((Seq.bind Seq.f64 fun _ => Seq.bind Seq.f64 fun _ => Seq.bind Seq.f64 fun _ =>
        Seq.bind Seq.f64 fun _ => Seq.pure _).mono (by omega)) (Seq.fail _ _))

theorem readContentOf_seq (o : Orient) (t : ShapeType) (rs : Int) : Seq (readContentOf o t rs) 0 := by
  cases t <;> simp only [readContentOf]
  case nullShape => exact Seq.pure _
  case point | pointM | pointZ => exact (readPointContent_seq _ _).mono (Nat.zero_le _)
  case multipoint | multipointM | multipointZ => exact (readMultipointContent_seq _ _).mono (Nat.zero_le _)
  case polyline | polylineM | polylineZ | polygon | polygonM | polygonZ =>
    exact (Seq.bind (readPolylineContent_seq _ _) fun _ => Seq.pure _).mono (Nat.zero_le _)
  case multipatch => exact (readMultipatchContent_seq _).mono (Nat.zero_le _)

theorem readShapeType_seq : Seq readShapeType 4 :=
  Seq.bind Seq.i32LE fun c => by
    cases ShapeType.ofCode c
    · exact Seq.fail _ _
    · exact Seq.pure _

/-- `record_size -= 4` cannot overflow: the caller only passes sizes in `[0, 2^31)` -/
theorem subTypeCode_seq (rs : Int) (h : 0 ≤ rs ∧ rs < 2147483648) : Seq (subTypeCode rs) 0 := by
  unfold subTypeCode
  rw [if_pos (show InI32 (rs - 4) by unfold InI32; omega)]
  exact Seq.pure _

theorem readTarget_seq (o : Orient) (tg : Target) (rs : Int) (h : 0 ≤ rs ∧ rs < 2147483648) :
    Seq (readTarget o tg rs) 4 := by
  cases tg
  · rw [readTarget, readShape_eq]
    exact Seq.bind readShapeType_seq fun _ => Seq.bind (subTypeCode_seq rs h) fun _ => readContentOf_seq _ _ _
  · exact Seq.bind readShapeType_seq fun _ => Seq.bind (subTypeCode_seq rs h) fun _ =>
      Seq.ite (readContentOf_seq _ _ _) (Seq.fail _ _)

/-- the two guards of `read_one_shape_as` (negative length, doubled length beyond `i32`) dominate the
only arithmetic that could overflow -/
theorem readOneShape_seq (o : Orient) (tg : Target) : Seq (readOneShape o tg) 12 :=
  Seq.bind Seq.i32BE fun _ => Seq.bind Seq.i32BE fun w => by
    by_cases hw : 0 ≤ w
    · rw [wordsToBytes_nonneg hw]
      exact ite_of (P := (Seq · _)) (fun _ => Seq.fail _ _) fun _ =>
        Seq.bind (readTarget_seq o tg (2 * w) (by omega)) fun _ => Seq.pure _
    · rw [show wordsToBytes w = none from if_pos (Int.not_le.mp hw)]
      exact Seq.fail _ _

theorem readHeader_seq : Seq readHeader 100 :=
  Seq.bind Seq.i32BE fun _ => Seq.ite (Seq.fail _ _)
    (Seq.bind (Seq.take _) fun _ => Seq.bind Seq.i32BE fun _ => Seq.bind Seq.i32LE fun _ =>
     Seq.bind readShapeType_seq fun _ =>
     Seq.bind Seq.f64 fun _ => Seq.bind Seq.f64 fun _ => Seq.bind Seq.f64 fun _ =>
     Seq.bind Seq.f64 fun _ => Seq.bind Seq.f64 fun _ => Seq.bind Seq.f64 fun _ =>
     Seq.bind Seq.f64 fun _ => Seq.bind Seq.f64 fun _ => Seq.pure _)

theorem readIndexEntry_seq : Seq readIndexEntry 8 :=
  Seq.bind Seq.i32BE fun _ => Seq.bind Seq.i32BE fun _ => Seq.pure _

theorem readIndexFile_seq : Seq readIndexFile 100 :=
  Seq.bind readHeader_seq fun h => by
    cases wordsToBytes h.fileLength
    · exact Seq.fail _ _
    · exact Seq.repeatN _ readIndexEntry_seq

theorem readShapeType_eats : Eats readShapeType 4 :=
  Eats.bind Fixed.i32LE.eats fun c => by
    cases ShapeType.ofCode c
    · exact Eats.fail _ _
    · exact Eats.pure _

theorem readHeader_eats : Eats readHeader 100 :=
  Eats.bind Fixed.i32BE.eats fun _ => Eats.ite (Eats.fail _ _)
    (Eats.bind (Fixed.take _).eats fun _ => Eats.bind Fixed.i32BE.eats fun _ => Eats.bind Fixed.i32LE.eats fun _ =>
     Eats.bind readShapeType_eats fun _ =>
     Eats.bind Fixed.f64.eats fun _ => Eats.bind Fixed.f64.eats fun _ => Eats.bind Fixed.f64.eats fun _ =>
     Eats.bind Fixed.f64.eats fun _ => Eats.bind Fixed.f64.eats fun _ => Eats.bind Fixed.f64.eats fun _ =>
     Eats.bind Fixed.f64.eats fun _ => Eats.bind Fixed.f64.eats fun _ => Eats.pure _)

theorem readOneShape_stable (o : Orient) (tg : Target) : Stable (readOneShape o tg) := (readOneShape_seq o tg).stable
theorem readOneShape_local (o : Orient) (tg : Target) : Local (readOneShape o tg) := (readOneShape_seq o tg).local
theorem readOneShape_noPanic (o : Orient) (tg : Target) : NoPanic (readOneShape o tg) := (readOneShape_seq o tg).noPanic
theorem readOneShape_c12 (o : Orient) (tg : Target) : Consumes (readOneShape o tg) 12 := (readOneShape_seq o tg).consumes

theorem subTypeCode_noPanic (rs : Int) (h : 0 ≤ rs ∧ rs < 2147483648) : NoPanic (subTypeCode rs) :=
  (subTypeCode_seq rs h).noPanic

theorem readHeader_stable : Stable readHeader := readHeader_seq.stable
theorem readHeader_local : Local readHeader := readHeader_seq.local
theorem readHeader_noPanic : NoPanic readHeader := readHeader_seq.noPanic

theorem readHeader_consumes (bs : Bytes) (h : Header) (rest : Bytes) (he : readHeader bs = .ok h rest) :
    rest.length + 100 = bs.length := by
  obtain ⟨hl, rfl⟩ := readHeader_eats bs h rest he
  rw [List.length_drop]; omega

theorem readHeader_rest (bs : Bytes) (h : Header) (rest : Bytes) (he : readHeader bs = .ok h rest) :
    rest = bs.drop 100 := (readHeader_eats bs h rest he).2

theorem readIndexFile_stable : Stable readIndexFile := readIndexFile_seq.stable
theorem readIndexFile_noPanic : NoPanic readIndexFile := readIndexFile_seq.noPanic

theorem readIndexFile_ok {shx : Bytes} {idx : List IndexEntry} {xr : Bytes} (h : readIndexFile shx = .ok idx xr) :
    ∃ hd n, readHeader shx = .ok hd (shx.drop 100) ∧ 100 ≤ shx.length ∧
      repeatN n readIndexEntry (shx.drop 100) = .ok idx xr := by
  unfold readIndexFile at h
  obtain ⟨hd, r, hh, hrep⟩ := bind_ok h
  obtain ⟨hl, rfl⟩ := readHeader_eats shx hd r hh
  cases hw : wordsToBytes hd.fileLength with
  | none => rw [hw] at hrep; cases hrep
  | some b => rw [hw] at hrep; exact ⟨hd, _, hh, hl, hrep⟩

theorem readIndexFile_backed {shx : Bytes} {idx : List IndexEntry} {rest : Bytes} (h : readIndexFile shx = .ok idx rest) :
    8 * idx.length ≤ shx.length := by
  obtain ⟨hd, n, _, hl, hrep⟩ := readIndexFile_ok h
  have := (readIndexEntry_seq.consumes.repeatN_backed n _ idx rest hrep).2
  rw [List.length_drop] at this
  omega

end Shp
