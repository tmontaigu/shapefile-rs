/-
C03's core: the model reader decodes every record the whitepaper encoder can emit (optional M
block present or absent, PointZ with or without M, null records, any part structure) to
`Rec.expected`.
-/
import Shp.Lemmas.SpecBridge
import Shp.Lemmas.Frame
namespace Shp
open Spec

/-- what the whitepaper asks of a record in a file of type `t`, hence what the reader must accept
(C03; `Rec.Strict` is what the writer produces, C02).  `small`: 2^30 bytes; the reader's `i32`
byte count rejects a record at 2^31 -/
structure Spec.Rec.WF (t : Nat) (r : Rec) : Prop where
  number : InI32 r.number
  typ : r.typeCode = t ∨ r.typeCode = 0
  info : (typeInfo r.typeCode).isSome
  box : r.typeCode ≠ 0 → r.box.length = 4
  shape : match typeInfo r.typeCode with
    | some (_, _, 1) => ∃ v, r.parts = [[v]]
    | some (_, _, 2) => ∃ vs, r.parts = [vs]
    | some (_, _, 5) => r.kinds.length = r.parts.length ∧ ∀ k ∈ r.kinds, k < 6
    | _ => True
  small : (encContent r).length < 1073741824
  /-- follows from `info` (`encContent_length_even`) -/
  even : (encContent r).length % 2 = 0

open Dec

theorem spec_frame (o : Orient) {t : Nat} (r : Rec) (hwf : r.WF t) (content rest : Bytes) (shape : Shape)
    (hc : encContent r = encI32LE r.typeCode ++ content)
    (hread : content.length < 1073741824 →
      readContentOf o (typeOfCode r.typeCode) (content.length : Int) (content ++ rest) = .ok shape rest) :
    readOneShape o .generic (Spec.encRecord r ++ rest) = .ok ((((encContent r).length / 2 : Nat) : Int), shape) rest := by
  have hl : (encContent r).length = 4 + content.length := by rw [hc]; simp
  have heven := hwf.even
  have hsmall := hwf.small
  have hread := hread (by omega)
  rw [← typeOfCode_code _ hwf.info] at hc
  unfold Spec.encRecord
  simp only [wrI32BE_eq, hc, List.append_assoc, List.length_append, encI32LE_length]
  exact readOneShape_frame o .generic r.number _ content rest shape ((4 + content.length) / 2) hwf.number (by omega) (by omega)
    trivial hread

theorem readPatchKind_code (k : Nat) (hk : k < 6) (r : Bytes) :
    readPatchKind (encI32LE k ++ r) = .ok (kindOfCode k) r := by
  unfold readPatchKind
  rw [bind_of_ok (i32LE_enc _ (inI32_nat (by omega)) _)]
  match k, hk with
  | 0, _ | 1, _ | 2, _ | 3, _ | 4, _ | 5, _ => rfl

/-- the model's dispatch on the type code agrees with Table 1 -/
theorem readContentOf_code (o : Orient) {c : Nat} {z m : Bool} {fam : Nat} (hi : typeInfo c = some (z, m, fam)) :
    readContentOf o (typeOfCode c) = match fam with
      | 0 => fun _ => Dec.pure .null
      | 1 => readPointContent (dimOf z m)
      | 2 => readMultipointContent (dimOf z m)
      | 3 => fun rs => Dec.bind (readPolylineContent (dimOf z m) rs) fun x => Dec.pure (.polyline (dimOf z m) x.1 x.2)
      | 4 => fun rs => Dec.bind (readPolylineContent (dimOf z m) rs) fun x =>
          Dec.pure (.polygon (dimOf z m) x.1 (x.2.map fun p => (roleOf o p, p)))
      | _ => readMultipatchContent := by
  unfold typeInfo at hi
  split at hi <;> cases hi <;> rfl

theorem Spec.Rec.WF.read_null {t : Nat} {r : Rec} (hwf : r.WF t) (o : Orient) (rest : Bytes) {z m : Bool}
    (hi : typeInfo r.typeCode = some (z, m, 0)) :
    readOneShape o .generic (Spec.encRecord r ++ rest) =
      .ok ((((encContent r).length / 2 : Nat) : Int), r.expected o) rest := by
  refine spec_frame o r hwf [] rest _ (by rw [encContent_of_null hi, wrI32LE_eq, List.append_nil]) fun _ => ?_
  rw [readContentOf_code o hi]
  simp [Dec.pure, Rec.expected, hi]

theorem Spec.Rec.WF.read_point {t : Nat} {r : Rec} (hwf : r.WF t) (o : Orient) (rest : Bytes) {hasZ hasM : Bool}
    (hi : typeInfo r.typeCode = some (hasZ, hasM, 1)) :
    readOneShape o .generic (Spec.encRecord r ++ rest) =
      .ok ((((encContent r).length / 2 : Nat) : Int), r.expected o) rest := by
  obtain ⟨v, hp⟩ := hi ▸ hwf.shape
  have hm : dimOf hasZ hasM = .xyzm ∨ (r.mPresent || !hasZ) = true := by
    cases hasZ <;> simp [dimOf]
  refine spec_frame o r hwf _ rest _ (encContent_point r hasZ hasM hi v hp) fun _ => ?_
  rw [readContentOf_code o hi]
  exact (readPointContent_opt (dimOf hasZ hasM) (r.mPresent || !hasZ) v.toPt rest hm).trans
    (by simp [Rec.expected, hi, Rec.pparts, hp])

theorem Spec.Rec.WF.read_multipoint {t : Nat} {r : Rec} (hwf : r.WF t) (o : Orient) (rest : Bytes) {hasZ hasM : Bool}
    (hi : typeInfo r.typeCode = some (hasZ, hasM, 2)) :
    readOneShape o .generic (Spec.encRecord r ++ rest) =
      .ok ((((encContent r).length / 2 : Nat) : Int), r.expected o) rest := by
  obtain ⟨vs, hp⟩ := hi ▸ hwf.shape
  have hb := hwf.box (fun h => by rw [h] at hi; cases hi)
  have hlen := encMultipointOpt_length (dimOf hasZ hasM) r.mPresent r.bbox (vs.map V.toPt)
  refine spec_frame o r hwf _ rest _ (encContent_multipoint r hasZ hasM hi hb vs hp (typeInfo_row hi).m_of_z) fun hlt => ?_
  rw [readContentOf_code o hi]
  exact (readMultipointContent_enc (dimOf hasZ hasM) r.mPresent r.bbox (vs.map V.toPt) rest (by omega)).trans
    (by simp [Rec.expected, hi, Rec.pparts, hp])

/-- polylines and polygons share the reader and differ in the shape built from what it returns -/
theorem Spec.Rec.WF.read_multipart {t : Nat} {r : Rec} (hwf : r.WF t) (o : Orient) (rest : Bytes) {hasZ hasM : Bool}
    {fam : Nat} (hi : typeInfo r.typeCode = some (hasZ, hasM, fam)) (hf : fam = 3 ∨ fam = 4) :
    readOneShape o .generic (Spec.encRecord r ++ rest) =
      .ok ((((encContent r).length / 2 : Nat) : Int), r.expected o) rest := by
  have hb := hwf.box (fun h => by rw [h] at hi; cases hi; omega)
  have hlen := encMultiPartOpt_length (dimOf hasZ hasM) r.mPresent r.bbox r.pparts
  refine spec_frame o r hwf _ rest _ (encContent_multipart r hasZ hasM fam hi hf hb (typeInfo_row hi).m_of_z) fun hlt => ?_
  have hread := readPolylineContent_enc (dimOf hasZ hasM) r.mPresent r.bbox r.pparts rest (by omega) (by omega)
  rw [readContentOf_code o hi]
  rcases hf with rfl | rfl
  · exact (bind_of_ok hread).trans (by simp [Dec.pure, Rec.expected, hi])
  · exact (bind_of_ok hread).trans (by simp [Dec.pure, Rec.expected, hi, List.map_map, Function.comp_def])

/-- `(kinds.map kindOfCode).zip parts`: the patches the reader builds from the stored part types -/
theorem encMultipatchOpt_zip (mp : Bool) (b : BBox) (kinds : List Nat) (parts : List (List Pt))
    (hl : kinds.length = parts.length) (hk : ∀ k ∈ kinds, k < 6) :
    encMultipatchOpt mp b ((kinds.map kindOfCode).zip parts) =
      encBBoxXY b ++ (encI32LE parts.length ++ (encI32LE (totalPoints parts) ++
      (encI32s ((partOffsets parts).map Int.ofNat) ++ (encI32s (kinds.map fun (k : Nat) => (k : Int)) ++
      (parts.flatMap encXY ++ encZMopt .xyzm mp b parts))))) := by
  have hsnd : ((kinds.map kindOfCode).zip parts).map (·.2) = parts := List.map_snd_zip (by simp [hl])
  have hcodes : ((kinds.map kindOfCode).zip parts).map (fun p => p.1.code) = kinds.map fun (k : Nat) => (k : Int) := by
    have := congrArg (List.map PatchKind.code) (List.map_fst_zip (l₁ := kinds.map kindOfCode) (l₂ := parts) (by simp [hl]))
    simp only [List.map_map] at this
    exact this.trans (List.map_congr_left fun k hk' => kindOfCode_code k (hk k hk'))
  unfold encMultipatchOpt
  simp only [hsnd, hcodes, List.length_zip, List.length_map, hl, Nat.min_self, List.append_assoc]

theorem Spec.Rec.WF.read_multipatch {t : Nat} {r : Rec} (hwf : r.WF t) (o : Orient) (rest : Bytes) (hcode : r.typeCode = 31) :
    readOneShape o .generic (Spec.encRecord r ++ rest) =
      .ok ((((encContent r).length / 2 : Nat) : Int), r.expected o) rest := by
  have hb := hwf.box (by rw [hcode]; decide)
  have hi : typeInfo r.typeCode = some (true, true, 5) := by rw [hcode]; rfl
  obtain ⟨hkl, hk⟩ := hi ▸ hwf.shape
  have hpl : r.kinds.length = r.pparts.length := by simp [Rec.pparts, hkl]
  have hc : encContent r = encI32LE r.typeCode ++
      encMultipatchOpt r.mPresent r.bbox ((r.kinds.map kindOfCode).zip r.pparts) := by
    rw [encContent_multipatch r hcode hb, encMultipatchOpt_zip _ _ _ _ hpl hk, hcode]
    rfl
  have hlen := encMultipatchOpt_length r.mPresent r.bbox ((r.kinds.map kindOfCode).zip r.pparts)
  refine spec_frame o r hwf _ rest _ hc fun hlt => ?_
  rw [readContentOf_code o hi]
  exact (readMultipatchContent_enc r.mPresent r.bbox _ rest (by omega) (by omega)).trans
    (by simp only [Rec.expected, hi, List.zip_map_left, List.map_map]; rfl)

/-- MAIN (record level): every record the whitepaper encoder can emit for a file of type `t` is
decoded by the reader to `expected`, consuming exactly its bytes -/
theorem spec_read_record (o : Orient) (t : Nat) (r : Rec) (hwf : r.WF t) (rest : Bytes) :
    readOneShape o .generic (Spec.encRecord r ++ rest) =
      .ok ((((encContent r).length / 2 : Nat) : Int), r.expected o) rest := by
  obtain ⟨⟨z, m, fam⟩, hi⟩ := Option.isSome_iff_exists.mp hwf.info
  have hf5 := (typeInfo_row hi).fam_le
  match fam, hf5 with
  | 0, _ => exact hwf.read_null o rest hi
  | 1, _ => exact hwf.read_point o rest hi
  | 2, _ => exact hwf.read_multipoint o rest hi
  | 3, _ | 4, _ => exact hwf.read_multipart o rest hi (by omega)
  | 5, _ => exact hwf.read_multipatch o rest ((typeInfo_row hi).multipatch rfl)

/-- polylines and polygons, 2-D / M / Z -/
theorem spec_read_multipart (o : Orient) (t : Nat) (r : Rec) (hwf : r.WF t) (rest : Bytes)
    (hcode : r.typeCode ∈ [3, 23, 13, 5, 25, 15]) :
    readOneShape o .generic (Spec.encRecord r ++ rest) =
      .ok ((((encContent r).length / 2 : Nat) : Int), r.expected o) rest :=
  spec_read_record o t r hwf rest

/-- multipoints, 2-D / M / Z -/
theorem spec_read_multipoint (o : Orient) (t : Nat) (r : Rec) (hwf : r.WF t) (rest : Bytes)
    (hcode : r.typeCode ∈ [8, 28, 18]) :
    readOneShape o .generic (Spec.encRecord r ++ rest) =
      .ok ((((encContent r).length / 2 : Nat) : Int), r.expected o) rest :=
  spec_read_record o t r hwf rest

/-- multipatches, any part-type codes 0..5 -/
theorem spec_read_multipatch (o : Orient) (t : Nat) (r : Rec) (hwf : r.WF t) (rest : Bytes) (hcode : r.typeCode = 31) :
    readOneShape o .generic (Spec.encRecord r ++ rest) =
      .ok ((((encContent r).length / 2 : Nat) : Int), r.expected o) rest :=
  hwf.read_multipatch o rest hcode

theorem spec_read_null (o : Orient) (t : Nat) (r : Rec) (hwf : r.WF t) (rest : Bytes) (hcode : r.typeCode = 0) :
    readOneShape o .generic (Spec.encRecord r ++ rest) =
      .ok ((((encContent r).length / 2 : Nat) : Int), r.expected o) rest :=
  spec_read_record o t r hwf rest

/-- Point, PointM, PointZ with or without its measure -/
theorem spec_read_point (o : Orient) (t : Nat) (r : Rec) (hwf : r.WF t) (rest : Bytes)
    (hcode : r.typeCode ∈ [1, 21, 11]) :
    readOneShape o .generic (Spec.encRecord r ++ rest) =
      .ok ((((encContent r).length / 2 : Nat) : Int), r.expected o) rest :=
  spec_read_record o t r hwf rest

end Shp
