/- `read()` (open + drain + collect) in terms of the two reading invariants. -/
import Shp.Lemmas.TruncSeq
namespace Shp

theorem readAll_ok {o : Orient} {tg : Target} {shp : Bytes} {shx : Option Bytes} {st : RState}
    (h : RState.open shp shx = .ok st) : readAll o tg shp shx = collectShapes (st.iterAll o tg st.fuel).2 := by
  unfold readAll; rw [h]

theorem collectShapes_shapes (l : List Shape) : collectShapes (l.map ROut.shape) = .ok l := by
  induction l with
  | nil => rfl
  | cons a as ih => simp [collectShapes, ih, Except.map]

theorem RInv.drain {o : Orient} {tg : Target} {shapes : List Shape} {st : RState} (h : RInv o tg shapes st)
    (fuel : Nat) (hf : shapes.length ≤ st.nextShape + fuel) :
    (st.iterAll o tg fuel).2 = (shapes.drop st.nextShape).map ROut.shape := by
  obtain ⟨st', he, _, _⟩ := h.iterAll fuel
  rw [he]
  simp only
  rw [List.take_of_length_le (by simp; omega)]

theorem TInv.drain {o : Orient} {tg : Target} {outs : List ROut} {st : RState} (h : TInv o tg outs st)
    (hn : st.nextShape = 0) : (st.iterAll o tg st.fuel).2 = outs := by
  obtain ⟨idx, hidx, hlen, _⟩ := h.idx
  obtain ⟨st', hall, _⟩ := h.iterAll h.ne_none st.fuel
  have := RState.fuel_ge_index hidx
  rw [hall, hn, List.drop_zero, List.take_of_length_le (by omega)]

theorem RInv.collect {o : Orient} {tg : Target} {shapes : List Shape} {st : RState} (h : RInv o tg shapes st)
    (hn : st.nextShape = 0) : collectShapes (st.iterAll o tg st.fuel).2 = .ok shapes := by
  rw [(RInv.iff_tinv.1 h).drain hn, collectShapes_shapes]

theorem SInv.collect {o : Orient} {tg : Target} {shapes : List Shape} {st : RState} (h : SInv o tg shapes st) :
    collectShapes (st.iterAll o tg st.fuel).2 = .ok shapes := by
  have hst : TSeq o tg st.data st.data.length st st.srcPos := ⟨(List.take_length).symm, h.noIndex, h.pos, rfl, h.flen⟩
  obtain ⟨k, hk, hcut, hall⟩ := TSeq.iterAll (Nat.le_refl _) h.recs hst (hst.fuel_ge (Nat.le_refl _))
  obtain rfl : k = shapes.length := Nat.le_antisymm hk (Nat.not_lt.1 fun hlt => Nat.lt_irrefl _ (hcut hlt))
  rw [hall, if_neg (Nat.lt_irrefl _), List.take_length, List.append_nil, collectShapes_shapes]

end Shp
